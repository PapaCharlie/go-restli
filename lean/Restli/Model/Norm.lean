import Restli.Model.Encode
import Restli.Model.Ror2Reader
/-! The value a document denotes for a reader of a given type (`norm`): what every reader of the
library returns for the encoding of `v` — the record's own defaults filled in at every level,
entries in ascending key order, NaN canonical. The round-trip theorems (Proofs/TreeRoundTrip on) are
stated with it; the generated `populateLocalDefaultValues` obtains the default of a record, union,
array or map field by reading the schema's literal as such a document, so the defaults a schema
holds are `norm` of its literals (`expandDefaults`). -/
namespace Restli.Codec

/-- reading back a float: the same bits, except that every NaN reads as the canonical NaN -/
def normF (f : Strconv.FloatFmt) (b : Nat) : Nat :=
  if (Strconv.decodeBits f b).cls == 2 then Strconv.nanBits f else b

def normPrim : Prim → Value → Value
  | .f32, .f32 b => .f32 (normF Strconv.f32 b)
  | .f64, .f64 b => .f64 (normF Strconv.f64 b)
  | _, v => v

/-- the value a reader returns for an encoded `v`: own defaults filled in, entries in ascending
key order, NaN canonical -/
def norm (env : Env) : Nat → Ty → Value → Value
  | 0, _, v => v
  | f + 1, ty, v =>
    match ty, v with
    | .prim p, v => normPrim p v
    | .arr t, .arr vs => .arr (vs.map (norm env f t))
    | .map t, .map es => .map (sortByKey (es.map (fun e => (e.1, norm env f t e.2))))
    | .ref n, v =>
      match env.find n, v with
      | some (.typeref p), v => normPrim p v
      | some (.record _ own), .record fs =>
        (match setFields (allFields env (includeFuel env) n) fs with
        | some triples =>
          .record (populateDefaults own (sortByKey (triples.map (fun x => (x.1, norm env f x.2.1 x.2.2)))))
        | none => v)
      | some (.union _ members), .union ms =>
        .union (sortByKey ((setMembers members ms).map (fun x => (x.1, norm env f x.2.1 x.2.2))))
      | _, v => v
    | _, v => v

/-- fuel for the literals of a schema (nesting depth of a default literal) -/
def literalFuel : Nat := 64

/-- a declaration with every default literal replaced by the value it denotes under `env` -/
def expandDecl (env : Env) : Decl → Decl
  | .record incs own =>
    .record incs (own.map fun f => { f with dflt := f.dflt.map (norm env literalFuel f.ty) })
  | d => d

/-- one pass over the schema -/
def expandDefaultsOnce (env : Env) : Env := env.map fun (e : TName × Decl) => (e.1, expandDecl env e.2)

/-- the schema as the generated code holds it: default literals read as documents of their field's
type, so that a record-typed default carries the own defaults of the record it names (and those
the defaults they name, … — one pass per declaration reaches every level) -/
def expandDefaults (env : Env) : Env :=
  (List.range (env.length + 1)).foldl (fun e _ => expandDefaultsOnce e) env

end Restli.Codec
