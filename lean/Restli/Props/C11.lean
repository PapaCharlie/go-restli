import Restli.Proofs.Patch
import Restli.Proofs.EncodeRef
import Restli.Proofs.LeafSem
/-! # C11 — schema validity constraints on encode and decode (unions, enums, fixed)

Statements about the generated marshalers/unmarshalers as modelled by `encode`, `readTy` (ROR2
cursor reader) and `treeRead` (JSON reader on a parsed document), for every schema, value and
input. Partial updates (`patch`/`$set`/`$delete`) are modelled in `Model/Patch.lean`; their
constraints are the last section. The round trip of partial updates in the patch shape is decided
on every run by correspondence and by the direct oracle, not by a theorem. -/
namespace Restli.Codec

/-- a union with two or more members set can never be encoded -/
theorem c11_union_two_members_rejected (c : EncCfg) (fuel : Nat) (scope : List Bytes) (n : TName)
    (hasNull : Bool) (members : List (Bytes × Ty)) (ms : List (Bytes × Value))
    (hd : c.env.find n = some (.union hasNull members)) (h : countSet ms members > 1) :
    encode c (fuel + 1) scope (.ref n) (.union ms) = .error .union := by
  rw [encode_union hd, if_pos h]

/-- a non-nullable union with no member set can never be encoded -/
theorem c11_union_no_member_rejected (c : EncCfg) (fuel : Nat) (scope : List Bytes) (n : TName)
    (members : List (Bytes × Ty)) (ms : List (Bytes × Value))
    (hd : c.env.find n = some (.union false members)) (h : countSet ms members = 0) :
    encode c (fuel + 1) scope (.ref n) (.union ms) = .error .union := by
  rw [encode_union hd, h]
  rfl

/-- conversely, whenever a union encodes, exactly one member was set (or none, if nullable) -/
theorem c11_union_encodes_only_if_valid (c : EncCfg) (fuel : Nat) (scope : List Bytes) (n : TName)
    (hasNull : Bool) (members : List (Bytes × Ty)) (ms : List (Bytes × Value)) (d : Doc)
    (hd : c.env.find n = some (.union hasNull members))
    (h : encode c (fuel + 1) scope (.ref n) (.union ms) = .ok d) :
    countSet ms members = 1 ∨ (hasNull = true ∧ countSet ms members = 0) := by
  rw [encode_union hd] at h
  by_cases h1 : countSet ms members > 1
  · simp [h1] at h
  · by_cases h0 : countSet ms members = 0
    · cases hasNull with
      | false => simp [h0] at h
      | true => exact Or.inr ⟨rfl, h0⟩
    · exact Or.inl (by omega)

/-- an enum constant is written iff it is one of the declared symbols, and then as that symbol -/
theorem c11_enum_encode_iff (c : EncCfg) (fuel : Nat) (scope : List Bytes) (n : TName)
    (syms : List Bytes) (k : Int) (hd : c.env.find n = some (.enum syms)) (d : Doc) :
    encode c (fuel + 1) scope (.ref n) (.enum k) = .ok d ↔
      (1 ≤ k ∧ k ≤ syms.length ∧ ∃ s, syms[(k - 1).toNat]? = some s ∧ d = .str s) := by
  rw [encode_enum hd, ← and_assoc]
  by_cases hk : 1 ≤ k ∧ k ≤ syms.length
  · rw [if_pos hk, and_iff_right hk]
    cases syms[(k - 1).toNat]? with
    | none => simp
    | some s => simp [eq_comm]
  · rw [if_neg hk]
    exact ⟨nofun, fun h => absurd h.1 hk⟩

/-- an out-of-range enum constant (including the `$UNKNOWN` value 0) is an encode error -/
theorem c11_enum_out_of_range_rejected (c : EncCfg) (fuel : Nat) (scope : List Bytes) (n : TName)
    (syms : List Bytes) (k : Int) (hd : c.env.find n = some (.enum syms))
    (hk : k < 1 ∨ k > syms.length) :
    encode c (fuel + 1) scope (.ref n) (.enum k) = .error .enum := by
  rw [encode_enum hd, if_neg (by omega)]

/-- ROR2: a symbol read from the wire becomes that symbol's constant or the `$UNKNOWN` value 0 —
never another declared symbol -/
theorem c11_enum_decode_never_another_symbol (c : RCfg) (fuel : Nat) (scope : List Seg) (n : TName)
    (syms : List Bytes) (hd : c.env.find n = some (.enum syms)) (s s' : RS) (v : Value)
    (h : readTy c (fuel + 1) scope (.ref n) s = .ok v s') :
    ∃ b s₁, readString c s = .ok b s₁ ∧
      (v = .enum 0 ∧ b ∉ syms ∨ ∃ i : Nat, v = .enum ((i : Int) + 1) ∧ syms[i]? = some b) := by
  rw [readTy_ref, hd] at h
  obtain ⟨b, s₁, hr, hk⟩ := Res.bind_ok h
  refine ⟨b, s₁, hr, ?_⟩
  cases hk
  cases hi : syms.idxOf? b with
  | none => exact .inl ⟨rfl, List.idxOf?_eq_none_iff.1 hi⟩
  | some i =>
    obtain ⟨hlt, hb, _⟩ := List.idxOf?_eq_some_iff.1 hi
    exact .inr ⟨i, rfl, by rw [List.getElem?_eq_getElem hlt, hb]⟩

/-- ROR2: a fixed is accepted only with exactly its declared size -/
theorem c11_fixed_decode_only_declared_size (c : RCfg) (fuel : Nat) (scope : List Seg) (n : TName)
    (size : Nat) (hd : c.env.find n = some (.fixed size)) (s s' : RS) (v : Value)
    (h : readTy c (fuel + 1) scope (.ref n) s = .ok v s') :
    ∃ b, v = .fixed b ∧ b.length = size := by
  rw [readTy_ref, hd] at h
  obtain ⟨b, s₁, _, hk⟩ := Res.bind_ok h
  split at hk
  · next hl => cases hk; exact ⟨b, rfl, hl⟩
  · cases hk

/-- ROR2: a fixed of any other size is the `fixed` error, whatever the bytes -/
theorem c11_fixed_decode_wrong_size_rejected (c : RCfg) (fuel : Nat) (scope : List Seg) (n : TName)
    (size : Nat) (hd : c.env.find n = some (.fixed size)) (s s₁ : RS) (b : Bytes)
    (hr : readString c s = .ok b s₁) (hl : b.length ≠ size) :
    readTy c (fuel + 1) scope (.ref n) s = .err .fixed := by
  rw [readTy_ref, hd, hr]
  exact if_neg hl

/-- JSON: a fixed is accepted only with exactly its declared size -/
theorem c11_json_fixed_only_declared_size (c : TCfg) (top : Bool) (scope : List Seg) (n : TName)
    (size : Nat) (hd : c.env.find n = some (.fixed size)) (t : Json.JVal) (v : Value) (m : List Bytes)
    (h : treeRead c top scope (.ref n) t = .ok v m) : ∃ b, v = .fixed b ∧ b.length = size := by
  rw [treeRead, hd] at h
  obtain ⟨x, m₀, _, hk⟩ := bindT_ok h
  cases x with
  | bytes b =>
    simp only at hk
    split at hk
    · next hl => cases hk; exact ⟨b, rfl, hl⟩
    · cases hk
  | _ => cases hk

/-! non-vacuity: a concrete schema, a valid and two invalid union values -/
def envEx : Env := [("U", .union false [([105], .prim .i32), ([115], .prim .str)]), ("E", .enum [[65], [66]])]
def cfgEx : EncCfg := { env := envEx, excl := .empty, sortKeys := true }
example : encode cfgEx 5 [] (.ref "U") (.union [([105], .i32 7)]) = .ok (.obj [([105], .int 7)]) := by rfl
example : encode cfgEx 5 [] (.ref "U") (.union [([105], .i32 7), ([115], .str [120])]) = .error .union := by rfl
example : encode cfgEx 5 [] (.ref "U") (.union []) = .error .union := by rfl
example : encode cfgEx 5 [] (.ref "E") (.enum 2) = .ok (.str [66]) := by rfl
example : encode cfgEx 5 [] (.ref "E") (.enum 3) = .error .enum := by rfl

/-! ## partial updates (`Model/Patch.lean`: the generated `X_PartialUpdate` bindings) -/

/-- **encoding**: a partial update is emitted only if `CheckFields` accepts it, i.e. every field of
the record (own or inherited through any chain of includes) that it deletes, sets or patches is
not excluded at the writer's scope and carries exactly one of the three operations -/
theorem c11_pu_encoded_only_if_legal (c : EncCfg) (fuel : Nat) (scope : List Bytes) (n : TName) (pu : PU)
    (d : Doc) (h : marshalPatch c fuel scope n pu = .ok d) :
    ∀ f ∈ allFields c.env (includeFuel c.env) n,
      pu.touches c.env f = true →
        c.excl.matchesB (scope ++ [f.name]) = false ∧ pu.conflicts c.env f = false :=
  fun f hf ht => fieldLegal_touched (marshalPatch_ok_legal h f hf) ht

/-- set-and-delete, set-and-patch, delete-and-patch of one field: never encoded -/
theorem c11_pu_conflict_never_encoded (c : EncCfg) (fuel : Nat) (scope : List Bytes) (n : TName) (pu : PU)
    (f : Field) (hf : f ∈ allFields c.env (includeFuel c.env) n) (hc : pu.conflicts c.env f = true) :
    ∀ d, marshalPatch c fuel scope n pu ≠ .ok d := by
  intro d h
  -- with a conflict, `CheckFields` passes the field only if nothing touches it
  have := marshalPatch_ok_legal h f hf
  simp [fieldLegal, hc, PU.touches] at this
  simp [PU.conflicts, this] at hc

/-- **decoding**: whatever `UnmarshalRestLiPatch` returns is legal in the same sense (so a document
that sets and deletes, sets and patches, or deletes and patches one field is rejected, whatever
the order of its members and however often they are repeated) -/
theorem c11_pu_decoded_only_if_legal (c : TCfg) (fuel : Nat) (scope : List Seg) (n : TName) (pu₀ pu : PU)
    (t : Json.JVal) (m : List Bytes) (h : unmarshalPatch c fuel scope n pu₀ t = .ok pu m) :
    ∀ f ∈ allFields c.env (includeFuel c.env) n,
      pu.touches c.env f = true →
        (c.tracker.check (scope ++ [.key f.name]) == .yes) = false ∧ pu.conflicts c.env f = false :=
  fun f hf ht => fieldLegal_touched (unmarshalPatch_ok_legal h f hf) ht

/-- a `$delete` list whose first item names a required field (own or inherited) is refused -/
theorem c11_pu_delete_required_refused (c : TCfg) (fields : List Field) (pu : PU) (name : Bytes)
    (x : Json.JVal) (xs : List Json.JVal) (f : Field) (hx : c.sem.str x = .ok name [])
    (hf : findField fields name = some f) (hreq : f.optOrDefault = false) :
    readDeletes c fields pu (x :: xs) = .err (.pu (.cannotDelete name)) := by
  simp [readDeletes, hx, hf, hreq]

/-- conversely a legal partial update passes `CheckFields` (nothing else in `MarshalRestLiPatch`
can fail but the encoding of the `$set` values and of nested patches) -/
theorem c11_pu_legal_passes_check (env : Env) (n : TName) (pu : PU) (excluded : Bytes → Bool)
    (h : ∀ f ∈ allFields env (includeFuel env) n, pu.touches env f = true →
      excluded f.name = false ∧ pu.conflicts env f = false) :
    ∃ fl, checkFields env n pu excluded = .ok fl := by
  apply checkFields_ok_iff.2
  intro f hf
  unfold fieldLegal
  cases ht : pu.touches env f with
  | false => simp
  | true =>
    obtain ⟨a, b⟩ := h f hf ht
    simp [a, b]

/-! non-vacuity: a record with an include, a partial update that deletes an inherited optional
field, sets an own field and patches a nested record — legal; the same with a second operation on
one field — refused -/
def envPU : Env :=
  [("In", .record [] [⟨[105], .prim .i32, false, none⟩, ⟨[110], .prim .str, true, none⟩]),
   ("B", .record [] [⟨[98], .prim .str, true, none⟩]),
   ("R", .record ["B"] [⟨[114], .prim .i32, false, none⟩, ⟨[120], .ref "In", true, none⟩])]
def cfgPU : EncCfg := { env := envPU, excl := .empty, sortKeys := true }
def puOk : PU := .mk [[98]] [([114], .i32 5)] [([120], .mk [[110]] [] [])]
example : marshalPU cfgPU 5 "R" puOk = .ok (.obj [(patchKey, .obj
    [(deleteKey, .arr [.str [98]]), (setKey, .obj [([114], .int 5)]),
     ([120], .obj [(deleteKey, .arr [.str [110]])])])]) := by rfl
example : marshalPU cfgPU 5 "R" (.mk [[98]] [([98], .str [])] []) = .error (.pu (.conflict [98])) := by rfl
example : marshalPU { cfgPU with excl := newPathSpec [[120, 47, 110]] } 5 "R" puOk = .error (.pu (.excluded [110])) := by rfl

end Restli.Codec
