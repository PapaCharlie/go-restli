import Restli.Proofs.EndToEnd
import Restli.Proofs.EndToEndCodec
import Restli.Props.C01
import Restli.Props.C05
import Restli.Props.C14
import Restli.Props.C15
/-! # C02 — end-to-end call fidelity: generated client → HTTP → generated server and back

The property theorems, the hypothesis structure `UrlLaw` and, in namespace `Witness`, a concrete server
for the examples (lemmas: `Proofs/EndToEnd.lean`, `Proofs/EndToEndCodec.lean`). Model: `Model/EndToEnd.lean` — the
generated client method, `formatQueryUrl`, `newRequest` with tunnelling, `DecodeTunnelledQuery`,
`ServeHTTP`/`receive`, the registered closure with the generated decoders, the `Register*` adapters,
the response half of `ServeHTTP`, net/http's treatment of response header values, the client's
response handling. The model *calls* the existing models (`Model/Routing`, `HttpUrl`, `Tunnel`,
`Encode`/`Render*`, `Ror2Reader`, `TreeReader`, `Patch`) as they are, and the theorems below *apply*
the other properties' theorems wherever those are proved:

* routing (C05): `walk_some`, `locateAt_simple_nokey`, `c05_exactly_one(_served)` — applied;
* tunnelling transparency (C14): `decode_sent`, `sent_plain`, `decode_no_override` — applied, under
  C14's own hypotheses `TokenBoundary` / `BoundaryFresh` about Go's random multipart boundary;
* URL construction (C15): `UrlLaw` (the request URL is context path + resource path, raw query kept)
  is derived from `c15_url_preserved_partial` in `c02_url_law_from_c15` (arbitrary resource path,
  C15's guard `NoDotSegments` kept) and `c02_url_law_for_call` (the client's own path: guard discharged);
* JSON values (C01): `json_roundtrip_tree` — applied in the response direction; the step from the
  emitted JSON *text* to the tree the writers denote is C03's `parse_renderJson` — applied, under its
  hypotheses `NumLaws` (strconv's float text is one JSON number token) and `DocTextOK` (strings and
  keys valid UTF-8);
* request-direction codec round trips (C01 for keys, parameters, bodies; C11 for patches): enter as
  the hypothesis `hcodec` — the closure's decoders, run on the client's own key texts, sorted
  parameter pairs and body bytes, return the caller's values; `decodeInvocation_client` shows that
  these three byte-level inputs are exactly the client's three byte-level outputs;
* cleanliness of what the writers emit (C01 `c01_escaped_is_clean`, C03
  `c03_ror2_string_token_wellformed`): key texts contain no `/`, parameter texts no `&`, both are
  balanced in parentheses (`ValidateRor2Input`) — hypotheses `htexts`, `hpairs`;
* batch key correlation (C16): `c02_batch_entries_filed_under_caller_keys` is the client loop of this
  model; which replies meet its hypotheses is C16's subject.

Two theorems carry no guard because the writers provide it: the path writer percent-encodes a key
that is exactly `.` or `..` (`c02_dot_keys_reach_their_method`; C15's guard `NoDotSegments` is
discharged in `c02_url_law_for_call` and kept only for arbitrary resource paths, as in C15), and the
header-flavour writer escapes every byte that does not survive in an HTTP header field value
(`c02_created_id_and_status`, `c02_awkward_created_ids_come_back`). One finding is net/http's: a call
through `AddToMux` whose key decodes to an unclean URL path is redirected by `http.ServeMux` before
go-restli sees it (known finding C02-servemux-unclean-path, D only).
Statuses left at zero are the protocol's defaults, not findings: `CreatedEntity.Status = 0` is sent
as 201, `BatchEntityUpdateResponse.Status = 0` as 204 (`createdStatus`; the direct oracle reads them
the same way). -/
namespace Restli.E2E
open Restli Restli.Codec
open Restli.Routing (Method)

/-- The regenerated constants of the v2 module satisfy what the theorems assume about them: the
tunnelling constants are good (C14); every method's `String()` maps back to it through
`MethodNameMapping` and is not empty; a call without a status of its own answers 200; the header
escaper covers every byte that does not survive in a header field value and writes only bytes that do;
`q` and `action` are the reserved parameter names; `elements` < `metadata` < `paging` in the writers'
key order. (`sortKeys` is a literal of the model's `constsV2`.) Re-decided on every run. -/
theorem c02_constants_ok_v2 : ConstsOk constsV2 where
  good := Tunnel.good_of_B _ Tunnel.c14_constants_good_v2
  names := by
    intro m hm
    -- `MethodNameMapping` is C05's table (`Tied.mapping`); what is left is a lookup in it
    have htable : Routing.mappingEntries constsV2.R = Routing.Spec.methodTable := Routing.c05_constants_tied_v2.mapping
    rw [Routing.nameMapping, htable]
    cases m <;> first | exact absurd rfl hm | decide +kernel
  namesNe := by
    intro m hm
    cases m <;> first | exact absurd rfl hm | decide +kernel
  sortKeys := rfl
  okStatus := rfl
  finderStr := by decide +kernel
  actionStr := by decide +kernel
  headerCovers := by decide +kernel
  headerWrites := by decide +kernel
  elemMeta := by decide +kernel
  metaPaging := by decide +kernel
  elemPaging := by decide +kernel

/-- the envelope member names and reserved parameter names are the protocol's -/
theorem c02_constants_v2 :
    constsV2.fElements = sB "elements" ∧ constsV2.fEntities = sB "entities" ∧ constsV2.fValue = sB "value" ∧
    constsV2.fResults = sB "results" ∧ constsV2.fStatuses = sB "statuses" ∧ constsV2.fErrors = sB "errors" ∧
    constsV2.fId = sB "id" ∧ constsV2.fStatus = sB "status" ∧ constsV2.fPaging = sB "paging" ∧
    constsV2.fMetadata = sB "metadata" ∧ constsV2.idHeader = sB "X-RestLi-Id" ∧
    constsV2.pIds = sB "ids" ∧ constsV2.pFinder = sB "q" ∧ constsV2.pAction = sB "action" :=
  ⟨rfl, rfl, rfl, rfl, rfl, rfl, rfl, rfl, rfl, rfl, rfl, rfl, rfl, rfl⟩

/-- **What `ParseQueryParams` cuts out of the client's query is what `BuildQueryParams` joined** —
the reserved parameters (`q`, `action`, `ids`), the user's parameters and the paging context alike,
each name with exactly the text its writer produced, in ascending order of the names; for every list
of pairs whose names are non-empty and free of `&`/`=` and whose texts are free of `&` (what the
query-flavour writer emits: `&` and `=` are not in its safe table). No bound on any length. -/
theorem c02_query_roundtrip (ps : List (Bytes × Bytes)) (h : ∀ e ∈ ps, PairClean e) :
    parseQuery (joinQuery ps) = sortByKey ps :=
  parseQuery_joinQuery ps h

/-- …so each parameter the client wrote is found by `receive` under its own name with its own text,
and a name the client did not write is absent (what method inference and the finder / action lookup
read). -/
theorem c02_query_lookup (ps : List (Bytes × Bytes)) (h : ∀ e ∈ ps, PairClean e)
    (hn : ((sortByKey ps).map (·.1)).Nodup) :
    (∀ k v, (k, v) ∈ ps → Routing.lookupLast (strOf k) (stringQuery (joinQuery ps)) = some (strOf v)) ∧
    (∀ k, (∀ e ∈ ps, e.1 ≠ k) → Routing.lookupLast (strOf k) (stringQuery (joinQuery ps)) = none) :=
  ⟨lookup_client_pair _ ps (parseQuery_joinQuery ps h) hn, lookup_client_absent _ ps (parseQuery_joinQuery ps h)⟩

/-- **The path of a call names its resource.** For every registered tree, every resource
description whose segments lead to a node of it (collections and simple resources at any depth) and
every list of key texts of the right length: the specification's `locate` on the call's path finds
that node, with the description's resource path, exactly the key texts as entity keys (parents'
first), and an own key exactly for entity-level methods. -/
theorem c02_path_names_resource (roots : List Routing.Node) (onEntity : Bool) (segs : List SegSpec)
    (node : Routing.Node) (ks : List String) (hnode : nodeFor roots segs = some node)
    (hl : ks.length = (keyTys onEntity segs).length) :
    Routing.Spec.locate roots (pathStrs onEntity segs ks) = some ⟨node, rpathOf segs, ks, hasKeyAt onEntity segs⟩ :=
  locate_pathStrs roots onEntity segs node ks hnode hl

/-- **Routing picks the call's method, for every method kind.** On the request of a call — the verb
of its kind, `X-RestLi-Method` naming it, the path of its resource with the key texts, the client's
query — `ServeHTTP`/`receive` decide for the handler registered for that method on that resource
(`KindOk`: registered, entity level consistent, reserved parameters as the client writes them), with
the key texts as entity keys and the finder / action name of the call. -/
theorem c02_routed_to_method (K : Consts) (hK : ConstsOk K) (roots : List Routing.Node) (r : ResSpec)
    (node : Routing.Node) (hnode : nodeFor roots r.segs = some node)
    (texts : List Bytes) (hlen : texts.length = (keyTys r.method.onEntity r.segs).length)
    (htexts : ∀ t ∈ texts, Routing.validateRor2Input (strOf t) = true)
    (q : Bytes) (hqv : ((stringQuery q).all fun kv => Routing.validateRor2Input kv.2) = true)
    (hkind : KindOk K r node (stringQuery q)) :
    Routing.route K.R Routing.validateRor2Input roots (clientRoutingReq K r texts q) = .routed (factsOf r texts) := by
  have := routeX_client hK hnode hlen htexts hqv hkind
  simp [Routing.route, this]

/-- **The generated client meets `KindOk`.** When the resource description and the registration agree
(`SpecOk`: both are emitted from one restspec) the request the generated client builds satisfies
everything routing asks of the method kind: the finder name travels under `q`, the action name under
`action` (`queryPairs_reserved`), and `receive` finds them there among the sorted, joined and re-cut
parameters. Hypotheses about the parameter pairs: clean texts (C01/C03), distinct names, and no
parameter called `action` on a method that is not an action (restspec well-formedness). -/
theorem c02_client_meets_kind (K : Consts) (hK : ConstsOk K) (env : Env) (r : ResSpec) (c : Call)
    (node : Routing.Node) (hs : SpecOk r node)
    (pairs : Option (List (Bytes × Bytes))) (hp : queryPairs K env r c = some pairs)
    (hclean : ∀ e ∈ pairs.getD [], PairClean e)
    (hn : ((sortByKey (pairs.getD [])).map (·.1)).Nodup)
    (hname : r.method.kind = .finder ∨ r.method.kind = .action → K.queryEsc r.method.name = r.method.name)
    (hnoaction : r.method.kind ≠ .action → ∀ e ∈ pairs.getD [], e.1 ≠ K.pAction) :
    KindOk K r node (stringQuery ((pairs.map joinQuery).getD [])) := by
  have hres := queryPairs_reserved hp hs.nameNe hname
  have hq := parseQuery_pairs pairs hclean
  -- what `receive` finds under `action` and `q`, by their string names
  have lookA := fun h => hK.actionStr ▸ lookup_client_pair _ _ hq hn K.pAction r.method.name (hres.2 h)
  have lookF := fun h => hK.finderStr ▸ lookup_client_pair _ _ hq hn K.pFinder r.method.name (hres.1 h)
  refine ⟨hs.known, ?_, ?_, ?_, ?_, ?_, hs.plainReg⟩
  · intro hc hne
    rw [hasKeyAt_eq, hs.needs hc hne, ← hs.coll, hc]; rfl
  · intro hc hf
    rw [hasKeyAt_eq, hs.forbids hc hf]; rfl
  · intro hc
    rcases hs.simpleKinds hc with h | h | h | h | h
    · rw [h]; simp [Routing.simpleMethod, verbOfBytes_verbBytes]
    · rw [h]; simp [Routing.simpleMethod, verbOfBytes_verbBytes]
    · rw [h]; simp [Routing.simpleMethod, verbOfBytes_verbBytes]
    · have hna : r.method.kind ≠ .action := by rw [h]; decide
      have := hK.actionStr ▸ lookup_client_absent _ _ hq K.pAction (hnoaction hna)
      rw [h]; simp [Routing.simpleMethod, verbOfBytes_verbBytes, this]
    · have hne : strOf r.method.name ≠ "" := fun e =>
        hs.nameNe (Or.inr h) (strOf_injective (by rw [e]; rfl))
      rw [h]; simp [Routing.simpleMethod, verbOfBytes_verbBytes, lookA h, hne]
  · intro h
    exact ⟨by simp [lookF h], hs.finderReg h⟩
  · intro h
    refine ⟨by simp [lookA h], ?_⟩
    rw [hs.actionReg h, hasKeyAt_eq]
    cases hc : node.isCollection with
    | true => rw [← hs.coll, hc]; simp
    | false => rw [hs.simpleLevel hc]; rfl

/-- **Exactly one resource method runs, and it is the call's.** With the routing decision above and
no filter in the way, the handler's event list has exactly one invocation, and every invocation in
it carries the call's facts (C05's `c05_exactly_one`, instantiated). -/
theorem c02_exactly_one (K : Consts) (hK : ConstsOk K) (roots : List Routing.Node) (r : ResSpec)
    (node : Routing.Node) (hnode : nodeFor roots r.segs = some node)
    (texts : List Bytes) (hlen : texts.length = (keyTys r.method.onEntity r.segs).length)
    (htexts : ∀ t ∈ texts, Routing.validateRor2Input (strOf t) = true)
    (q : Bytes) (hqv : ((stringQuery q).all fun kv => Routing.validateRor2Input kv.2) = true)
    (hkind : KindOk K r node (stringQuery q)) (pfx : String) :
    let out := Routing.serveSegs K.R Routing.validateRor2Input ⟨pfx, [], roots⟩ (clientRoutingReq K r texts q)
    (out.events.map Routing.Event.tag).count Routing.Tag.inv = 1 ∧
    ∀ f' s, Routing.Event.invoke f' s ∈ out.events → f' = factsOf r texts := by
  have hx := routeX_client hK hnode hlen htexts hqv hkind
  have hreach : Routing.reaches (factsOf r texts) (hasKeyAt r.method.onEntity r.segs)
      (hasKeyAt r.method.onEntity r.segs) (clientRoutingReq K r texts q) = true := by
    simp only [Routing.reaches, clientRoutingReq, factsOf, bne_self_eq_false, Bool.and_false, Bool.not_false,
      Bool.true_and]
    cases r.method.kind <;> rfl
  constructor
  · exact Routing.c05_exactly_one_served K.R Routing.validateRor2Input ⟨pfx, [], roots⟩ _ _ _ _ hx (by simp) hreach
  · intro f' s hmem
    have := (Routing.c05_exactly_one K.R Routing.validateRor2Input ⟨pfx, [], roots⟩ (clientRoutingReq K r texts q)).2 f' s hmem
    simp only [Routing.route, hx] at this
    cases this; rfl

/-- the request URL keeps the context path followed by the resource path, and the raw query —
what C15's `c15_url_preserved_partial` proves under its guards (no dot segment in the path, the
context's root cut) -/
structure UrlLaw (cfg : Cfg) (root rp : Bytes) (query : Option Bytes) (u : Url.URL) : Prop where
  parsed : ∃ host, Url.parse (baseUrlText cfg) = .ok host ∧ HttpUrl.requestUrl host root rp query = .ok u
  path : Url.escapedPath u = cfg.pfx ++ rp
  rawQuery : u.rawQuery = query.getD []

/-- the resolver URL of the model, as a base URL of C15's grammar: `http://c02.test` + context segments -/
def baseOf (ctx : List Bytes) : HttpUrlSpec.Base :=
  { authority := some ⟨sB "http", sB "c02.test", [], false⟩, segs := ctx, trailingSlash := false }

/-- **`UrlLaw` is C15's theorem.** For a context path of well-formed segments that does not contain
the root resource's name, a resource path and query of the encoders' alphabets and — C15's guard 1,
the guard of finding C02-dot-segment-key — no `.`/`..` segment in the path:
`c15_url_preserved_partial` yields the request URL with the context path followed by the resource
path and the raw query kept byte for byte. -/
theorem c02_url_law_from_c15 (cfg : Cfg) (ctx : List Bytes) (hpfx : cfg.pfx = HttpUrlSpec.joinSegs ctx)
    (root rp : Bytes) (q : Option Bytes)
    (hwf : (baseOf ctx).wf = true) (hrp : HttpUrlSpec.resourcePathOk root rp = true)
    (hq : HttpUrlSpec.queryText (q.getD []) = true) (hroot : ∀ s ∈ ctx, s ≠ root)
    (guard : HttpUrlSpec.NoDotSegments (HttpUrlSpec.joinSegs ctx ++ rp)) :
    ∃ u, UrlLaw cfg root rp q u := by
  have hlast : ctx.getLast? ≠ some root := by
    intro h
    exact hroot root (List.mem_of_getLast? h) rfl
  have hexp : HttpUrlSpec.expectedPath (baseOf ctx).segs root rp = HttpUrlSpec.joinSegs ctx ++ rp := by
    simp [HttpUrlSpec.expectedPath, baseOf, hlast]
  have hP := HttpUrl.c15_url_preserved_partial (baseOf ctx) root rp q hwf hrp hq
    (fun s hs => hroot s (List.dropLast_subset _ hs))
    (by rw [hexp]; exact guard)
    (fun h => absurd h hlast)
  have htext : (baseOf ctx).text = baseUrlText cfg := by
    have : sB "http" ++ [58, 47, 47] ++ (sB "c02.test" ++ []) = sB "http://c02.test" := by decide +kernel
    simp only [HttpUrlSpec.Base.text, baseOf, HttpUrlSpec.Authority.text, HttpUrlSpec.Authority.host, HttpUrlSpec.Base.ctx,
      Bool.false_eq_true, if_false, List.append_nil, baseUrlText, hpfx]
    rw [← this]; simp
  unfold HttpUrl.UrlPreserved at hP
  rw [htext] at hP
  -- `UrlPreserved` is `False` unless both steps succeed
  split at hP
  · next host hparse =>
    split at hP
    · next u hreq => exact ⟨u, ⟨host, hparse, hreq⟩, by rw [hP.path_exact, hexp, hpfx], hP.query_exact⟩
    · exact hP.elim
  · exact hP.elim

/-- **`UrlLaw` for the path of a call — the dot-segment guard is discharged by the writer.** For the
resource path the generated client builds (`keyTexts`), C15's guard `NoDotSegments` holds by
construction: the path writer percent-encodes an entity key that is exactly `.` or `..`, so a key
text is never `.` or `..` (`keyTexts_not_dot`). What remains are statements about the inputs that are
not keys: the context segments and the resource names are not dot segments and contain no `/`. -/
theorem c02_url_law_for_call (K : Consts) (N : NumLaws) (env : Env) (cfg : Cfg) (ctx : List Bytes)
    (hpfx : cfg.pfx = HttpUrlSpec.joinSegs ctx) (r : ResSpec) (c : Call) (texts : List Bytes)
    (ht : keyTexts K env (keyTys r.method.onEntity r.segs) c.keys = some texts) (root : Bytes) (q : Option Bytes)
    (hwf : (baseOf ctx).wf = true)
    (hrp : HttpUrlSpec.resourcePathOk root (joinPath (pathSegsB r.method.onEntity r.segs texts)) = true)
    (hq : HttpUrlSpec.queryText (q.getD []) = true) (hroot : ∀ s ∈ ctx, s ≠ root)
    (hctx : ∀ s ∈ ctx, (∀ ch ∈ s, ch ≠ 47) ∧ s ≠ [46] ∧ s ≠ [46, 46])
    (hnames : ∀ s ∈ r.segs, (∀ ch ∈ s.name, ch ≠ 47) ∧ s.name ≠ [46] ∧ s.name ≠ [46, 46])
    (htexts : ∀ t ∈ texts, ∀ ch ∈ t, ch ≠ 47) :
    ∃ u, UrlLaw cfg root (joinPath (pathSegsB r.method.onEntity r.segs texts)) q u := by
  apply c02_url_law_from_c15 cfg ctx hpfx root _ q hwf hrp hq hroot
  have hj : HttpUrlSpec.joinSegs ctx = joinPath ctx := by
    simp [HttpUrlSpec.joinSegs, joinPath, List.flatMap]
  rw [hj, ← joinPath_append]
  have hnd := keyTexts_not_dot N ht
  apply noDotSegments_joinPath
  exact List.forall_mem_append.2 ⟨hctx, pathSegsB_forall _ _ _ hnames fun t ht => ⟨htexts t ht, hnd t ht⟩⟩

/-- **The keys of a call come back** (the first third of `hcodec` below, as a theorem): the texts
the generated client writes for the entity keys of a resource path — each key on a path writer of
its own, a key that is exactly `.` or `..` as `%2E`/`%2E%2E` — are decoded by the generated
`UnmarshalResourcePath` to the caller's keys (normalised: NaN canonical, entries of a complex key in
key order), for every key type of every schema. From C01's byte-level round trip for values read at
position 0 (`ror2_roundtrip_any`), `FloatLaws` being C01's hypothesis about strconv. -/
theorem c02_keys_read_back (F : Codec.FloatLaws) (env : Env) (hS : Codec.schemaOKb env = true)
    (tys : List Ty) (keys : List Value) (texts : List Bytes) (hv : ∀ k ∈ keys, Codec.ValOK k)
    (ht : keyTexts constsV2 env tys keys = some texts) :
    decodeKeys env tys texts = .ok (List.zipWith (Codec.norm env encFuel) tys keys) :=
  decodeKeys_keyTexts constsV2 rfl (Codec.escLaws_path Escape.tablesV2 Escape.c01_tables_ok_v2) F env
    (Codec.schemaOK_of_check env hS) tys keys texts hv ht

/-- **The parameters of a call come back** (the second third of `hcodec`, for a query that consists
of the params record's own pairs): the sorted name/value pairs the generated client writes for a
record of parameters — every field on a query writer of its own — are decoded by the generated
`DecodeQueryParams` to the caller's record (normalised: own defaults filled in), for every params
record of every schema and parameters of every type. -/
theorem c02_params_read_back (F : Codec.FloatLaws) (env : Env) (hS : Codec.schemaOKb env = true)
    (n : TName) (incs : List TName) (own : List Field) (hfind : env.find n = some (.record incs own))
    (fs : List (Bytes × Value)) (hv : Codec.ValOK (.record fs)) (pairs : List (Bytes × Bytes))
    (hp : paramPairs constsV2 env n (.record fs) = some pairs) :
    decodeParams env n (sortByKey pairs) = .ok (Codec.norm env (encFuel + 1) (.ref n) (.record fs)) :=
  decodeParams_paramPairs constsV2 rfl (Codec.escLaws_query Escape.tablesV2 Escape.c01_tables_ok_v2) F env
    (Codec.schemaOK_of_check env hS) n incs own hfind fs hv pairs hp

/-- **End-to-end, request direction.** For every registered resource shape, method kind, call, context
path and tunnelling threshold: if the client marshals the call (key texts `texts`, parameter pairs
`pairs`, body `bodyD`), then it puts a request on the wire, and the server — de-tunnelling, prefix,
split, routing, the registered closure — invokes exactly the call's method with the result of running
the generated decoders on the client's own key texts, sorted parameter pairs and body bytes. With the
codec round trips of the call's values (`hcodec`; C01, C11) that result is the call: the resource
sees the keys, parameters (paging included) and body the caller passed.
Hypotheses beside the quantifier: cleanliness of the writers' output (C01/C03), `UrlLaw` (C15),
the boundary hypotheses of C14, and that a body, when present, is not empty (a JSON document never is). -/
theorem c02_call_reaches_method (K : Consts) (hK : ConstsOk K) (env : Env) (roots : List Routing.Node) (cfg : Cfg)
    (r : ResSpec) (c : Call) (node : Routing.Node) (hnode : nodeFor roots r.segs = some node)
    (texts : List Bytes) (ht : keyTexts K env (keyTys r.method.onEntity r.segs) c.keys = some texts)
    (pairs : Option (List (Bytes × Bytes))) (hp : queryPairs K env r c = some pairs)
    (bodyD : Option Doc) (hbd : bodyDoc K env r c = some bodyD)
    (hnames : ∀ s ∈ r.segs, ∀ ch ∈ s.name, ch ≠ 47)
    (htexts : ∀ t ∈ texts, (∀ ch ∈ t, ch ≠ 47) ∧ Routing.validateRor2Input (strOf t) = true)
    (hpairs : ∀ e ∈ pairs.getD [], PairClean e ∧ Routing.validateRor2Input (strOf e.2) = true)
    (hkind : KindOk K r node (stringQuery ((pairs.map joinQuery).getD [])))
    (hpfx : (strOf cfg.pfx).toList.getLast? ≠ some '/')
    (u : Url.URL) (hurl : UrlLaw cfg ((r.segs.head?.map (·.name)).getD [])
      (joinPath (pathSegsB r.method.onEntity r.segs texts)) (pairs.map joinQuery) u)
    (hb : Tunnel.TokenBoundary cfg.boundary)
    (hfresh : TunnelSpec.BoundaryFresh cfg.boundary ((pairs.map joinQuery).getD []) ((bodyD.map renderJson).getD []))
    (hbody : bodyD.map renderJson ≠ some [])
    (i : Invocation)
    (hcodec : (decodeKeys env (keyTys r.method.onEntity r.segs) texts).bind (fun keys =>
        (decodeQuery K env r (sortByKey (pairs.getD []))).bind (fun qp =>
          (decodeBody K env r qp.1 qp.2 ((bodyD.map renderJson).getD [])).bind (fun pb => .ok ⟨keys, pb.1, pb.2⟩))) = .ok i) :
    ∃ a sent, clientEncode K env r c = some a ∧ wireRequest K cfg a = .ok sent ∧
      serverSees K env roots cfg r sent = .invoked i := by
  have hlen := keyTexts_length ht
  have hqv : ((stringQuery ((pairs.map joinQuery).getD [])).all fun kv => Routing.validateRor2Input kv.2) = true := by
    rw [stringQuery, parseQuery_pairs pairs (fun e he => (hpairs e he).1)]
    simp only [List.all_map, List.all_eq_true]
    intro e he
    exact (hpairs e ((mem_sortByKey _ e).1 he)).2
  obtain ⟨sent, hsent, hsees⟩ := serverSees_delivered hK env cfg hnode hlen hnames htexts
    hqv hkind hpfx u.forceQuery hb hfresh hbody
  refine ⟨_, sent, clientEncode_eq ht hp hbd, ?_, ?_⟩
  · obtain ⟨host, hparse, hreq⟩ := hurl.parsed
    simp only [wireRequest, hparse, ofUrlRes, hreq, hurl.path, hurl.rawQuery, hsent]
  · rw [hsees, afterRouting, decodeInvocation_client K env r texts (parseQuery_pairs pairs fun e he => (hpairs e he).1), hcodec]

/-- **A `get` with parameters, end to end with no codec hypothesis left.** For every resource shape,
key types and params record of every schema: a `get` made through the generated client — keys in
the path, the params record in the query — reaches exactly its method, and the resource sees the
caller's keys and parameters (normalised: NaN canonical, own defaults filled in). `hcodec` of
`c02_call_reaches_method` is discharged by `c02_keys_read_back` and `c02_params_read_back`; what is
left are the cleanliness facts of the writers' output (C01/C03), `UrlLaw` (C15) and C14's boundary
hypotheses. -/
theorem c02_get_reaches_method_with_its_arguments (F : Codec.FloatLaws) (env : Env) (hS : Codec.schemaOKb env = true)
    (roots : List Routing.Node) (cfg : Cfg) (r : ResSpec) (c : Call) (node : Routing.Node)
    (hnode : nodeFor roots r.segs = some node)
    (hget : r.method.kind = .get) (n : TName) (hparams : r.method.params = some n)
    (incs : List TName) (own : List Field) (hfind : env.find n = some (.record incs own))
    (fs : List (Bytes × Value)) (hcp : c.params = some (.record fs)) (hcb : c.body = .none)
    (hvk : ∀ k ∈ c.keys, Codec.ValOK k) (hvp : Codec.ValOK (.record fs))
    (texts : List Bytes) (ht : keyTexts constsV2 env (keyTys r.method.onEntity r.segs) c.keys = some texts)
    (pairs : List (Bytes × Bytes)) (hp : paramPairs constsV2 env n (.record fs) = some pairs)
    (hnames : ∀ s ∈ r.segs, ∀ ch ∈ s.name, ch ≠ 47)
    (htexts : ∀ t ∈ texts, (∀ ch ∈ t, ch ≠ 47) ∧ Routing.validateRor2Input (strOf t) = true)
    (hpairs : ∀ e ∈ pairs, PairClean e ∧ Routing.validateRor2Input (strOf e.2) = true)
    (hkind : KindOk constsV2 r node (stringQuery (joinQuery pairs)))
    (hpfx : (strOf cfg.pfx).toList.getLast? ≠ some '/')
    (u : Url.URL) (hurl : UrlLaw cfg ((r.segs.head?.map (·.name)).getD [])
      (joinPath (pathSegsB r.method.onEntity r.segs texts)) (some (joinQuery pairs)) u)
    (hb : Tunnel.TokenBoundary cfg.boundary)
    (hfresh : TunnelSpec.BoundaryFresh cfg.boundary (joinQuery pairs) []) :
    ∃ a sent, clientEncode constsV2 env r c = some a ∧ wireRequest constsV2 cfg a = .ok sent ∧
      serverSees constsV2 env roots cfg r sent =
        .invoked ⟨List.zipWith (Codec.norm env encFuel) (keyTys r.method.onEntity r.segs) c.keys,
          some (Codec.norm env (encFuel + 1) (.ref n) (.record fs)), .none⟩ := by
  have hqp : queryPairs constsV2 env r c = some (some pairs) := by
    simp [queryPairs, hget, hparams, hcp, hp, isBatchKeyed]
  have hbd : bodyDoc constsV2 env r c = some Option.none := by
    simp [bodyDoc, hget, hcb]
  have hkeys := c02_keys_read_back F env hS _ c.keys texts hvk ht
  have hpar := c02_params_read_back F env hS n incs own hfind fs hvp pairs hp
  refine c02_call_reaches_method constsV2 c02_constants_ok_v2 env roots cfg r c node hnode texts ht (some pairs) hqp
    Option.none hbd hnames htexts hpairs hkind hpfx u hurl hb hfresh (by simp) _ ?_
  simp only [Option.getD_some, hkeys, Dec.bind, decodeQuery, hget, hparams, hpar, isBatchKeyed,
    Option.map_none, Option.getD_none, decodeBody, List.isEmpty_nil, ↓reduceIte, Bool.false_eq_true]

/-- **A `create`, end to end with no codec hypothesis left.** For every collection and entity record of
every schema: a `create` made through the generated client — parent keys in the path, the entity as
the JSON body — reaches exactly its method and the resource sees the caller's keys and the caller's
entity (normalised). The body half of `hcodec` is C01's byte-level JSON round trip
(`c01_json_roundtrip_bytes`, under its hypotheses about strconv and valid UTF-8 text). -/
theorem c02_create_reaches_method_with_its_entity (F : Codec.FloatLaws) (C : Codec.ConvLaws) (N : Codec.NumLaws)
    (env : Env) (hS : Codec.schemaOKb env = true)
    (roots : List Routing.Node) (cfg : Cfg) (r : ResSpec) (c : Call) (node : Routing.Node)
    (hnode : nodeFor roots r.segs = some node)
    (hcreate : r.method.kind = .create) (hparams : r.method.params = Option.none)
    (sn : TName) (hschema : r.schema = some sn) (v : Value) (hcb : c.body = .entity v)
    (hvk : ∀ k ∈ c.keys, Codec.ValOK k) (hv : Codec.ValOK v)
    (kvs : List (Bytes × Doc)) (henc : encode (wcfg constsV2 env) encFuel [] (.ref sn) v = .ok (.obj kvs))
    (htext : Codec.DocTextOK (.obj kvs))
    (texts : List Bytes) (ht : keyTexts constsV2 env (keyTys r.method.onEntity r.segs) c.keys = some texts)
    (hnames : ∀ s ∈ r.segs, ∀ ch ∈ s.name, ch ≠ 47)
    (htexts : ∀ t ∈ texts, (∀ ch ∈ t, ch ≠ 47) ∧ Routing.validateRor2Input (strOf t) = true)
    (hkind : KindOk constsV2 r node (stringQuery []))
    (hpfx : (strOf cfg.pfx).toList.getLast? ≠ some '/')
    (u : Url.URL) (hurl : UrlLaw cfg ((r.segs.head?.map (·.name)).getD [])
      (joinPath (pathSegsB r.method.onEntity r.segs texts)) Option.none u)
    (hb : Tunnel.TokenBoundary cfg.boundary)
    (hfresh : TunnelSpec.BoundaryFresh cfg.boundary [] (renderJson (.obj kvs))) :
    ∃ a sent, clientEncode constsV2 env r c = some a ∧ wireRequest constsV2 cfg a = .ok sent ∧
      serverSees constsV2 env roots cfg r sent =
        .invoked ⟨List.zipWith (Codec.norm env encFuel) (keyTys r.method.onEntity r.segs) c.keys,
          Option.none, .entity (Codec.norm env encFuel (.ref sn) v)⟩ := by
  have hqp : queryPairs constsV2 env r c = some Option.none := by
    simp [queryPairs, hcreate, hparams, isBatchKeyed]
  have hbd : bodyDoc constsV2 env r c = some (some (.obj kvs)) := by
    simp [bodyDoc, hcreate, hcb, hschema, henc, toOpt]
  have hkeys := c02_keys_read_back F env hS _ c.keys texts hvk ht
  have hjson := Codec.c01_json_roundtrip_bytes env F C N hS 0 encFuel (.ref sn) v kvs hv henc htext
  refine c02_call_reaches_method constsV2 c02_constants_ok_v2 env roots cfg r c node hnode texts ht Option.none hqp
    (some (.obj kvs)) hbd hnames htexts (by simp) hkind hpfx u hurl hb hfresh (by simpa using (jsonText_of N _ htext).nonEmpty) _ ?_
  simp only [hkeys, Dec.bind, decodeQuery, hcreate, hparams, isBatchKeyed,
    Option.map_some, Option.getD_some, decodeBody, hschema, jsonTCfg, hjson, ofTRes, Bool.false_eq_true, ↓reduceIte]

/-- **An `update`, end to end with no codec hypothesis left.** For every resource and entity record of
every schema: an `update` made through the generated client — keys in the path, the entity as
the JSON body — reaches exactly its method and the resource sees the caller's keys and the caller's
entity (normalised). The body half of `hcodec` is C01's byte-level JSON round trip
(`c01_json_roundtrip_bytes`, under its hypotheses about strconv and valid UTF-8 text). -/
theorem c02_update_reaches_method_with_its_entity (F : Codec.FloatLaws) (C : Codec.ConvLaws) (N : Codec.NumLaws)
    (env : Env) (hS : Codec.schemaOKb env = true)
    (roots : List Routing.Node) (cfg : Cfg) (r : ResSpec) (c : Call) (node : Routing.Node)
    (hnode : nodeFor roots r.segs = some node)
    (hcreate : r.method.kind = .update) (hparams : r.method.params = Option.none)
    (sn : TName) (hschema : r.schema = some sn) (v : Value) (hcb : c.body = .entity v)
    (hvk : ∀ k ∈ c.keys, Codec.ValOK k) (hv : Codec.ValOK v)
    (kvs : List (Bytes × Doc)) (henc : encode (wcfg constsV2 env) encFuel [] (.ref sn) v = .ok (.obj kvs))
    (htext : Codec.DocTextOK (.obj kvs))
    (texts : List Bytes) (ht : keyTexts constsV2 env (keyTys r.method.onEntity r.segs) c.keys = some texts)
    (hnames : ∀ s ∈ r.segs, ∀ ch ∈ s.name, ch ≠ 47)
    (htexts : ∀ t ∈ texts, (∀ ch ∈ t, ch ≠ 47) ∧ Routing.validateRor2Input (strOf t) = true)
    (hkind : KindOk constsV2 r node (stringQuery []))
    (hpfx : (strOf cfg.pfx).toList.getLast? ≠ some '/')
    (u : Url.URL) (hurl : UrlLaw cfg ((r.segs.head?.map (·.name)).getD [])
      (joinPath (pathSegsB r.method.onEntity r.segs texts)) Option.none u)
    (hb : Tunnel.TokenBoundary cfg.boundary)
    (hfresh : TunnelSpec.BoundaryFresh cfg.boundary [] (renderJson (.obj kvs))) :
    ∃ a sent, clientEncode constsV2 env r c = some a ∧ wireRequest constsV2 cfg a = .ok sent ∧
      serverSees constsV2 env roots cfg r sent =
        .invoked ⟨List.zipWith (Codec.norm env encFuel) (keyTys r.method.onEntity r.segs) c.keys,
          Option.none, .entity (Codec.norm env encFuel (.ref sn) v)⟩ := by
  have hqp : queryPairs constsV2 env r c = some Option.none := by
    simp [queryPairs, hcreate, hparams, isBatchKeyed]
  have hbd : bodyDoc constsV2 env r c = some (some (.obj kvs)) := by
    simp [bodyDoc, hcreate, hcb, hschema, henc, toOpt]
  have hkeys := c02_keys_read_back F env hS _ c.keys texts hvk ht
  have hjson := Codec.c01_json_roundtrip_bytes env F C N hS 0 encFuel (.ref sn) v kvs hv henc htext
  refine c02_call_reaches_method constsV2 c02_constants_ok_v2 env roots cfg r c node hnode texts ht Option.none hqp
    (some (.obj kvs)) hbd hnames htexts (by simp) hkind hpfx u hurl hb hfresh (by simpa using (jsonText_of N _ htext).nonEmpty) _ ?_
  simp only [hkeys, Dec.bind, decodeQuery, hcreate, hparams, isBatchKeyed,
    Option.map_some, Option.getD_some, decodeBody, hschema, jsonTCfg, hjson, ofTRes, Bool.false_eq_true, ↓reduceIte]

/-- **A `delete`, end to end with no codec hypothesis left**: keys in the path, nothing else; the
resource sees the caller's keys. -/
theorem c02_delete_reaches_method_with_its_keys (F : Codec.FloatLaws) (env : Env) (hS : Codec.schemaOKb env = true)
    (roots : List Routing.Node) (cfg : Cfg) (r : ResSpec) (c : Call) (node : Routing.Node)
    (hnode : nodeFor roots r.segs = some node)
    (hdel : r.method.kind = .delete) (hparams : r.method.params = Option.none) (hcb : c.body = .none)
    (hvk : ∀ k ∈ c.keys, Codec.ValOK k)
    (texts : List Bytes) (ht : keyTexts constsV2 env (keyTys r.method.onEntity r.segs) c.keys = some texts)
    (hnames : ∀ s ∈ r.segs, ∀ ch ∈ s.name, ch ≠ 47)
    (htexts : ∀ t ∈ texts, (∀ ch ∈ t, ch ≠ 47) ∧ Routing.validateRor2Input (strOf t) = true)
    (hkind : KindOk constsV2 r node (stringQuery []))
    (hpfx : (strOf cfg.pfx).toList.getLast? ≠ some '/')
    (u : Url.URL) (hurl : UrlLaw cfg ((r.segs.head?.map (·.name)).getD [])
      (joinPath (pathSegsB r.method.onEntity r.segs texts)) Option.none u)
    (hb : Tunnel.TokenBoundary cfg.boundary)
    (hfresh : TunnelSpec.BoundaryFresh cfg.boundary [] []) :
    ∃ a sent, clientEncode constsV2 env r c = some a ∧ wireRequest constsV2 cfg a = .ok sent ∧
      serverSees constsV2 env roots cfg r sent =
        .invoked ⟨List.zipWith (Codec.norm env encFuel) (keyTys r.method.onEntity r.segs) c.keys,
          Option.none, .none⟩ := by
  have hqp : queryPairs constsV2 env r c = some Option.none := by
    simp [queryPairs, hdel, hparams, isBatchKeyed]
  have hbd : bodyDoc constsV2 env r c = some Option.none := by
    simp [bodyDoc, hdel, hcb]
  have hkeys := c02_keys_read_back F env hS _ c.keys texts hvk ht
  refine c02_call_reaches_method constsV2 c02_constants_ok_v2 env roots cfg r c node hnode texts ht Option.none hqp
    Option.none hbd hnames htexts (by simp) hkind hpfx u hurl hb hfresh (by simp) _ ?_
  simp only [hkeys, Dec.bind, decodeQuery, hdel, hparams, isBatchKeyed, Option.map_none, Option.getD_none,
    decodeBody, List.isEmpty_nil, ↓reduceIte, Bool.false_eq_true]

/-- **Whether query tunnelling is triggered makes no difference.** Two configurations that differ
only in the tunnelling threshold: the server sees the same thing (both are what the closure makes of
the untunnelled request — C14 applied on both sides). -/
theorem c02_tunnelling_irrelevant (K : Consts) (hK : ConstsOk K) (env : Env) (roots : List Routing.Node) (cfg : Cfg)
    (t1 t2 : Nat) (r : ResSpec) (node : Routing.Node) (hnode : nodeFor roots r.segs = some node)
    (texts : List Bytes) (hlen : texts.length = (keyTys r.method.onEntity r.segs).length)
    (hnames : ∀ s ∈ r.segs, ∀ ch ∈ s.name, ch ≠ 47)
    (htexts : ∀ t ∈ texts, (∀ ch ∈ t, ch ≠ 47) ∧ Routing.validateRor2Input (strOf t) = true)
    (q : Bytes) (hqv : ((stringQuery q).all fun kv => Routing.validateRor2Input kv.2) = true)
    (hkind : KindOk K r node (stringQuery q))
    (hpfx : (strOf cfg.pfx).toList.getLast? ≠ some '/') (fq : Bool) (body : Option Bytes)
    (hb : Tunnel.TokenBoundary cfg.boundary) (hfresh : TunnelSpec.BoundaryFresh cfg.boundary q (body.getD []))
    (hbody : body ≠ some []) :
    ∃ s1 s2,
      Tunnel.sentRequest K.T cfg.boundary t1 (cfg.pfx ++ joinPath (pathSegsB r.method.onEntity r.segs texts)) fq q
        (verbBytes r.method.kind) (sB (methodName K.R r.method.kind)) body = .ok s1 ∧
      Tunnel.sentRequest K.T cfg.boundary t2 (cfg.pfx ++ joinPath (pathSegsB r.method.onEntity r.segs texts)) fq q
        (verbBytes r.method.kind) (sB (methodName K.R r.method.kind)) body = .ok s2 ∧
      serverSees K env roots { cfg with threshold := t1 } r s1 = serverSees K env roots { cfg with threshold := t2 } r s2 := by
  obtain ⟨s1, h1, e1⟩ := serverSees_delivered hK env { cfg with threshold := t1 } hnode hlen hnames
    htexts hqv hkind hpfx fq hb hfresh hbody
  obtain ⟨s2, h2, e2⟩ := serverSees_delivered hK env { cfg with threshold := t2 } hnode hlen hnames
    htexts hqv hkind hpfx fq hb hfresh hbody
  exact ⟨s1, s2, h1, h2, by rw [e1, e2]⟩

/-- **Entity.** What a `get` implementation returns is what the client call returns: the response
body is the entity's JSON, which parses to the tree the writers denote (C03's `parse_renderJson`,
applied: `NumLaws` about strconv's float text, strings and keys valid UTF-8), read back by the
generated unmarshaler (C01's JSON tree round trip `json_roundtrip_tree`, applied) — `norm`: defaults filled, map entries in
key order, NaN canonical. For every schema, entity type, value and depth. -/
theorem c02_returns_entity (K : Consts) (hK : ConstsOk K) (env : Env) (F : FloatLaws) (C : ConvLaws) (S : SchemaOK env)
    (keq : Value → Value → Bool) (r : ResSpec) (c : Call) (n : TName) (hs : r.schema = some n)
    (hkind : r.method.kind = .get) (v : Value) (hv : ValOK v) (d : Doc)
    (henc : encode (wcfg K env) encFuel [] (.ref n) v = .ok d) (N : NumLaws) (hok : DocTextOK d) :
    callReturns K env keq r c (.entity v) = .entity (norm env encFuel (.ref n) v) := by
  have ht := jsonText_of N d hok
  have hresp : serverRespond K env r (.entity v) =
      some ⟨K.R.srvInitialStatus, Option.none, false, some (renderJson d)⟩ := by
    simp [serverRespond, hs, henc, toOpt, hkind]
  simp only [callReturns, hresp, clientReturns, hK.okStatus, hkind, hs]
  simp [parseJson_text d ht, Dec.bind, treeRead_encoded hK F C S [] true hv henc, decRet]

/-- **Action result.** The value an action returns is what the client call returns (the `value`
envelope opened; any result type: primitives, arrays, records). -/
theorem c02_returns_action_result (K : Consts) (hK : ConstsOk K) (env : Env) (F : FloatLaws) (C : ConvLaws)
    (S : SchemaOK env) (keq : Value → Value → Bool) (r : ResSpec) (c : Call) (ty : Ty) (hret : r.method.ret = some ty)
    (hkind : r.method.kind = .action) (v : Value) (hv : ValOK v) (d : Doc)
    (henc : encode (wcfg K env) encFuel [K.fValue] ty v = .ok d)
    (N : NumLaws) (hok : DocTextOK ((wcfg K env).finish [(K.fValue, d)])) :
    callReturns K env keq r c (.action v) = .action (norm env encFuel ty v) := by
  have ht := jsonText_of N _ hok
  have hresp : serverRespond K env r (.action v) = some ⟨K.R.srvInitialStatus, Option.none, false,
      some (renderJson ((wcfg K env).finish [(K.fValue, d)]))⟩ := by
    simp [serverRespond, hret, henc, toOpt]
  have htree : treeOf jsonEnc ((wcfg K env).finish [(K.fValue, d)]) = .obj [(K.fValue, treeOf jsonEnc d)] := by
    simp [EncCfg.finish, wcfg, hK.sortKeys, sortByKey, insertByKey, treeOf, treeOfKvs, jsonEnc]
  simp only [callReturns, hresp, clientReturns, hK.okStatus, hkind, hret]
  simp [parseJson_text _ ht, htree, Dec.bind, soleMember,
    treeRead_encoded hK F C S [.key K.fValue] false hv henc, decRet]

/-- **Elements with paging.** What `get_all` or a finder returns — every element, in order, and the
paging record (or none) — is what the client call returns. Any number of elements. -/
theorem c02_returns_elements_paging (K : Consts) (hK : ConstsOk K) (env : Env) (F : FloatLaws) (C : ConvLaws)
    (S : SchemaOK env) (keq : Value → Value → Bool) (r : ResSpec) (c : Call) (ty : Ty)
    (hkind : r.method.kind = .get_all ∨ r.method.kind = .finder) (hty : elemTy r = some ty)
    (vs : List Value) (hvs : ∀ v ∈ vs, ValOK v) (ds : List Doc) (hds : encElems K env ty vs = some ds)
    (paging : Option Value) (hpv : ∀ p, paging = some p → ValOK p) (pg : List (Bytes × Doc))
    (hpg : encPaging K env paging = some pg) (hmeta : r.method.metadata = none)
    (N : NumLaws) (hok : DocTextOK ((wcfg K env).finish ((K.fElements, .arr ds) :: pg))) :
    callReturns K env keq r c (.elements vs paging none) =
      .elements (vs.map (norm env encFuel ty)) (paging.map (norm env encFuel (.ref tCollMeta))) none := by
  have ht := jsonText_of N _ hok
  have hel := decodeArr_items hK F C S [.key K.fElements, .idx 0] hvs hds
  have hne : (K.fPaging == K.fElements) = false :=
    beq_eq_false_iff_ne.mpr fun e => ne_of_bytesLt hK.elemPaging e.symm
  have hmd : encMetadata K env r.method Option.none = some [] := by simp [encMetadata, hmeta]
  have hresp : serverRespond K env r (.elements vs paging Option.none) = some ⟨K.R.srvInitialStatus, Option.none, false,
      some (renderJson ((wcfg K env).finish ((K.fElements, .arr ds) :: pg)))⟩ := by
    simp [serverRespond, hty, hds, hmd, hpg]
  simp only [callReturns, hresp]
  cases paging with
  | none =>
    simp only [encPaging, Option.some.injEq] at hpg
    subst hpg
    have htree : treeOf jsonEnc ((wcfg K env).finish [(K.fElements, .arr ds)]) =
        .obj [(K.fElements, .arr (treeOfItems jsonEnc ds))] := by
      simp [EncCfg.finish, wcfg, hK.sortKeys, sortByKey, insertByKey, treeOf, treeOfKvs, jsonEnc]
    have hlk : List.lookup K.fPaging [(K.fElements, Json.JVal.arr (treeOfItems jsonEnc ds))] = Option.none := by
      simp [List.lookup, hne]
    rcases hkind with hk' | hk' <;>
      simp [clientReturns, hK.okStatus, hk', hty, parseJson_text _ ht, htree, Dec.bind, knownOnly, memberOf, hlk,
        hel, decRet, hmeta]
  | some p =>
    simp only [encPaging, Option.map_eq_some_iff] at hpg
    obtain ⟨d, hpe, rfl⟩ := hpg
    have hrt' := treeRead_encoded hK F C S [.key K.fPaging] false (hpv p rfl) (toOpt_eq_some hpe)
    have htree : treeOf jsonEnc ((wcfg K env).finish [(K.fElements, .arr ds), (K.fPaging, d)]) =
        .obj [(K.fElements, .arr (treeOfItems jsonEnc ds)), (K.fPaging, treeOf jsonEnc d)] := by
      simp [EncCfg.finish, wcfg, hK.sortKeys, sortByKey, insertByKey, hK.elemPaging, treeOf, treeOfKvs, jsonEnc]
    have hnn : treeOf jsonEnc d ≠ .null := treeOf_ne_null jsonEnc jsonLeaf_ne_null d
    have hmem : memberOf K.fPaging [(K.fElements, Json.JVal.arr (treeOfItems jsonEnc ds)), (K.fPaging, treeOf jsonEnc d)] =
        some (treeOf jsonEnc d) := by
      simp only [memberOf, List.lookup, hne, beq_self_eq_true]
      cases htd : treeOf jsonEnc d <;> first | rfl | exact absurd htd hnn
    have hmemE : memberOf K.fElements [(K.fElements, Json.JVal.arr (treeOfItems jsonEnc ds)), (K.fPaging, treeOf jsonEnc d)] =
        some (.arr (treeOfItems jsonEnc ds)) := by
      simp [memberOf, List.lookup]
    have hk0 : knownOnly [K.fElements, K.fPaging]
        [(K.fElements, Json.JVal.arr (treeOfItems jsonEnc ds)), (K.fPaging, treeOf jsonEnc d)] = true := by
      simp [knownOnly]
    have hpj := parseJson_text _ ht
    rw [htree] at hpj
    rcases hkind with hk' | hk' <;>
      simp [clientReturns, hK.okStatus, hk', hty, hpj, Dec.bind, hk0, hmemE, hmem,
        hel, decRet, hmeta, hrt']

/-- **Per-key batch results, statuses and errors are filed under the caller's keys.** One map of a
batch response (`results`, `statuses` or `errors`), read by the client's correlation loop: if every
member's name reads as a key that the key type's equality (`keq`: `Equals`, `ComplexKeyEquals`)
finds among the caller's keys and its value decodes, and no two members name the same caller key,
then the map the client returns has exactly one entry per member, in the members' order, each under
the CALLER's key (`orig`) with the member's decoded value — none lost, none duplicated, none moved to
another key. (That a server reply about requested keys meets the hypotheses, and that a reply that
does not is rejected, is C16: `c16_response_filed_under_original`, `c16_unknown_key_is_error`,
`c16_response_repeated_key_is_error`; the values' round trips are C01.) -/
theorem c02_batch_entries_filed_under_caller_keys {β : Type} (env : Env) (kt : Ty) (keq : Value → Value → Bool)
    (callKeys : List Value) (dec : Json.JVal → Dec β) (orig : Bytes → Value) (val : Json.JVal → β)
    (ms : List (Bytes × Json.JVal)) (hms : ∀ m ∈ ms, MemberOk env kt keq callKeys dec orig val m)
    (hdistinct : (ms.map (fun m => orig m.1)).Pairwise (fun a b => keq a b = false)) :
    decodeBatchMap env kt keq callKeys dec [] ms = .ok (ms.map (fun m => (orig m.1, val m.2))) :=
  decodeBatchMap_members env kt keq callKeys dec orig val ms [] hms hdistinct (by intro s hs; cases hs)

/-- **Created id and status.** Whatever id the implementation returns (any key type, any content:
spaces at the ends, control bytes, CR/LF, non-ASCII, reserved characters), the client returns the
value `id'` that the id's header text decodes to (`hdec`; that `id'` is the implementation's id is
C01's header-flavour round trip, not applied here) and the status the implementation chose (201 when
it left it at zero). No guard on the text is needed: the header-flavour writer escapes control bytes,
DEL and spaces, so every byte it emits survives in an HTTP header field value (`headerText_safe`, from
`ConstsOk.headerCovers` / `headerWrites`, re-decided against the regenerated table on every run). -/
theorem c02_created_id_and_status (K : Consts) (hK : ConstsOk K) (E : EscLaws K.headerEsc false) (F : FloatLaws)
    (env : Env) (keq : Value → Value → Bool) (r : ResSpec) (c : Call)
    (kt : Ty) (hkt : lastKeyTy r.segs = some kt) (hkind : r.method.kind = .create) (hre : r.method.returnEntity = false)
    (cr : Created) (idt : Bytes) (hid : ror2Text K env K.headerEsc kt cr.id = some idt)
    (id' : Value) (hdec : ofRes (unmarshalRor2 (pathRCfg env) kt idt) = .ok id')
    (hst : createdStatus cr / 100 = 2) :
    callReturns K env keq r c (.created cr) = .created id' (createdStatus cr) none := by
  have hsafe : HeaderSafe idt := by
    simp only [ror2Text, Option.map_eq_some_iff] at hid
    obtain ⟨d, _, rfl⟩ := hid
    exact headerText_safe hK E F d
  have hresp : serverRespond K env r (.created cr) = some ⟨createdStatus cr, some idt, false, Option.none⟩ := by
    simp [serverRespond, hkt, hid, hre, createdStatus]
  have hne : idt.isEmpty = false := List.isEmpty_eq_false_iff.2 hsafe.2
  have hst' : (createdStatus cr / 100 != 2) = false := by simp [hst]
  simp only [callReturns, hresp, clientReturns, hsafe.1, Option.map_some, hkind, hre, hkt, hst']
  simp [hne, hdec, decRet]

end Restli.E2E

namespace Restli.E2E.Witness
open Restli Restli.Codec Restli.E2E
open Restli.Routing (Method)

/-- entity `Inner { id: int, name: optional string }` -/
def env : Env := [("Inner", .record [] [⟨sB "id", .prim .i32, false, none⟩, ⟨sB "name", .prim .str, true, none⟩])]

/-- a string-keyed collection `coll` (get, delete, create, batch_get, finder `byName`, entity action `poke`)
with a simple sub-resource `detail` (get, delete) -/
def server : Routing.Server :=
  Routing.registerAll (Routing.newServer constsV2.R [])
    [([("coll", true)], .method .get), ([("coll", true)], .method .delete), ([("coll", true)], .method .create),
     ([("coll", true)], .method .batch_get), ([("coll", true)], .finder "byName"), ([("coll", true)], .action "poke" true),
     ([("coll", true), ("detail", false)], .method .get), ([("coll", true), ("detail", false)], .method .delete)]

def roots : List Routing.Node := server.handler.roots

def collSegs : List SegSpec := [⟨sB "coll", some (.prim .str)⟩]
def detailSegs : List SegSpec := [⟨sB "coll", some (.prim .str)⟩, ⟨sB "detail", none⟩]

def collGet : ResSpec := ⟨collSegs, some "Inner", ⟨.get, [], true, none, none, none, false⟩⟩
def detailGet : ResSpec := ⟨detailSegs, some "Inner", ⟨.get, [], false, none, none, none, false⟩⟩
def detailDelete : ResSpec := ⟨detailSegs, some "Inner", ⟨.delete, [], false, none, none, none, false⟩⟩

def collCreate : ResSpec := ⟨collSegs, some "Inner", ⟨.create, [], false, none, none, none, false⟩⟩
def someEntity : Value := .record [(sB "id", .i32 7)]
def createdIdOf : Returned → Option Bytes
  | .created (.str b) _ _ => some b
  | _ => none
def isNoIdHeader : Returned → Bool
  | .noIdHeader => true
  | _ => false
def isTransportError : Returned → Bool
  | .transportError => true
  | _ => false

def boundary : Bytes := sB "0123456789abcdef0123456789abcdef0123456789abcdef0123456789ab"
def plainCfg : Cfg := ⟨0, [], boundary⟩
def ctxCfg (t : Nat) : Cfg := ⟨t, sB "/ctx/api%20v1", boundary⟩

/-- the path keys a `Seen` was invoked with, as path texts (bytes compare; values do not) -/
def seenKeys (tys : List Ty) : Seen → Option (List Bytes)
  | .invoked i => keyTexts constsV2 env tys i.keys
  | _ => none

def isOther : Seen → Option (Method × List String)
  | .other f => some (f.method, f.keys)
  | _ => none

end Restli.E2E.Witness

namespace Restli.E2E
open Witness

/-- **Dot keys reach their method** (finding C02-dot-segment-key, DESIGN F13, repaired in /repo by
`fix: write an entity key that is exactly "." or ".." percent-encoded in the resource path`; before
it `detail.get(key = ".")` was sent to `/coll/detail` and invoked `coll.get("detail")`). The dot keys
travel as `%2E` / `%2E%2E` and reach their method with the key intact — without and under a context
path, on a collection and on its simple sub-resource. -/
theorem c02_dot_keys_reach_their_method :
    (∀ key ∈ [[46], [46, 46]],
      seenKeys [.prim .str] (callSeen constsV2 env roots plainCfg detailGet ⟨[.str key], none, .none⟩) =
        keyTexts constsV2 env [.prim .str] [.str key] ∧
      seenKeys [.prim .str] (callSeen constsV2 env roots (ctxCfg 1) detailDelete ⟨[.str key], none, .none⟩) =
        keyTexts constsV2 env [.prim .str] [.str key] ∧
      seenKeys [.prim .str] (callSeen constsV2 env roots (ctxCfg 0) collGet ⟨[.str key], none, .none⟩) =
        keyTexts constsV2 env [.prim .str] [.str key]) ∧
    keyTexts constsV2 env [.prim .str] [.str [46]] = some [sB "%2E"] ∧
    keyTexts constsV2 env [.prim .str] [.str [46, 46]] = some [sB "%2E%2E"] := by
  decide +kernel

/-- **Awkward created ids come back as they were returned** (finding C02-F14-id-header-not-transparent,
DESIGN F14, repaired in /repo by `fix: header-flavour ROR2 escapes control bytes, DEL and spaces`;
before it the created id `" "` came back as a missing id header, `" a "` as `"a"`, and `"\x00"`
failed the whole call). -/
theorem c02_awkward_created_ids_come_back :
    ∀ id ∈ [[32], [0], sB " a ", sB "a\nb\r", [127, 9], sB "a (b):'c',%41 é/+"],
      createdIdOf (callReturns constsV2 env (fun _ _ => false) collCreate ⟨[], none, .entity someEntity⟩
        (.created ⟨.str id, 201, none, none⟩)) = some id := by
  decide +kernel

/-- the hypotheses of `c02_created_id_and_status` about the header escaper are C01's `escLaws_header`
for the regenerated table -/
example : Codec.EscLaws constsV2.headerEsc false := Codec.escLaws_header Escape.tablesV2 Escape.c01_tables_ok_v2

/-- `coll.get("a/b (c):'d',%41 é+")` reaches `coll.get` with exactly that key — a key full of reserved
characters, without and under a context path, on the collection and on its sub-resource (the query is
empty, so none of these calls is tunnelled; the finder call below is) -/
example :
    let key : Bytes := sB "a/b (c):'d',%41 é+"
    seenKeys [.prim .str] (callSeen constsV2 env roots plainCfg collGet ⟨[.str key], none, .none⟩) =
      keyTexts constsV2 env [.prim .str] [.str key] ∧
    seenKeys [.prim .str] (callSeen constsV2 env roots (ctxCfg 0) collGet ⟨[.str key], none, .none⟩) =
      keyTexts constsV2 env [.prim .str] [.str key] ∧
    seenKeys [.prim .str] (callSeen constsV2 env roots (ctxCfg 1) detailGet ⟨[.str key], none, .none⟩) =
      keyTexts constsV2 env [.prim .str] [.str key] := by
  decide +kernel

/-- the empty key travels as `''` -/
example : seenKeys [.prim .str] (callSeen constsV2 env roots plainCfg collGet ⟨[.str []], none, .none⟩) =
    some [[39, 39]] := by decide +kernel

example : (nodeFor roots detailSegs).map Routing.Node.methods = some [.get, .delete] := by decide +kernel

/-! every hypothesis of `c02_call_reaches_method` at once, on a tunnelled finder call under a context
path: the theorem applies and yields the invocation -/

def collFind : ResSpec := ⟨collSegs, some "Inner", ⟨.finder, sB "byName", false, none, some (.ref "Inner"), none, false⟩⟩
def collNode : Routing.Node := (nodeFor roots collSegs).getD (.mk "" false [] [] [] [])
def collNode_is : nodeFor roots collSegs = some collNode := by
  have h : (nodeFor roots collSegs).isSome = true := by decide +kernel
  unfold collNode
  cases hn : nodeFor roots collSegs with
  | none => rw [hn] at h; cases h
  | some n => rfl
def okOr {α : Type} [Inhabited α] : Url.Res α → α
  | .ok a => a
  | _ => default
instance : Inhabited Url.URL := ⟨{}⟩
def findPairs : List (Bytes × Bytes) := [(sB "q", sB "byName")]
def findHost : Url.URL := okOr (Url.parse (baseUrlText (ctxCfg 1)))
def findUrl : Url.URL := okOr (HttpUrl.requestUrl findHost (sB "coll") (sB "/coll") (some (joinQuery findPairs)))

example : ∃ a sent, clientEncode constsV2 env collFind ⟨[], none, .none⟩ = some a ∧
    wireRequest constsV2 (ctxCfg 1) a = .ok sent ∧
    serverSees constsV2 env roots (ctxCfg 1) collFind sent = .invoked ⟨[], none, .none⟩ := by
  -- `UrlLaw` from C15, its guards evaluated on this call's context path, resource path and query
  obtain ⟨u, hurl⟩ := c02_url_law_from_c15 (ctxCfg 1) [sB "ctx", sB "api%20v1"] (hpfx := by decide +kernel)
    (sB "coll") (joinPath [sB "coll"]) (some (joinQuery findPairs)) (hwf := by decide +kernel)
    (hrp := by decide +kernel) (hq := by decide +kernel) (hroot := by decide +kernel) (guard := by decide +kernel)
  have hb : Tunnel.TokenBoundary (ctxCfg 1).boundary := by
    rw [show (ctxCfg 1).boundary = _ from sB_eq _]
    exact ⟨by decide +kernel, by decide +kernel⟩
  exact c02_call_reaches_method constsV2 c02_constants_ok_v2 env roots (ctxCfg 1) collFind ⟨[], none, .none⟩
    (node := collNode) (hnode := collNode_is)
    (texts := []) (ht := rfl) (pairs := some findPairs) (hp := by decide +kernel) (bodyD := none) (hbd := rfl)
    (hnames := by decide +kernel) (htexts := by intro t ht; cases ht) (hpairs := by decide +kernel)
    (hkind :=
      { known := by decide
        needs := by decide +kernel
        forbids := by decide +kernel
        simple := by decide +kernel
        finder := by decide +kernel
        action := by decide +kernel
        plain := by decide +kernel })
    (hpfx := by decide +kernel) (u := u) (hurl := hurl) (hb := hb)
    (hfresh := ⟨by decide +kernel, by decide +kernel⟩) (hbody := by decide)
    (i := ⟨[], none, .none⟩) (hcodec := rfl)

/-- …and that request really was tunnelled: a POST without URL query -/
example : (match clientEncode constsV2 env collFind ⟨[], none, .none⟩ with
    | some a => (match wireRequest constsV2 (ctxCfg 1) a with
      | .ok s => (s.method, s.rawQuery, s.path)
      | _ => ([], [1], []))
    | none => ([], [2], [])) = (sB "POST", [], sB "/ctx/api%20v1/coll") := by decide +kernel

end Restli.E2E
