import Restli.Proofs.Ror2Safe
import Restli.Proofs.AnyReader
import Restli.Proofs.QueryParams
/-! # C04 — decoder robustness (ROR2 readers and generated unmarshalers)

The reader model has a `.panic` outcome where the Go code would index outside a slice: `readArray`
indexes `u.data[u.pos]` right after `List(`, and `genericMatches` (asked by the missing-fields
tracker and by `readRecord`'s epilogue) indexes `path[0]`. The other indexings of `ror2_reader.go`
stand behind an `if u.pos >= len(u.data)` check and are modelled with it, as a syntax error on
`"("`, `"(a:(b:1)"`, `"(a:1,"`. The theorem says no input of any kind reaches a `.panic`: for
**every** byte string, schema, type, exclusion spec and ignore count the modelled
`NewRor2ReaderWithExcludedFields(data, …)` + generated `UnmarshalRestLi` returns a value, an error
or (hexadecimal floats) declines.

Termination: the model's recursion is bounded by fuel, and `c04_ror2_never_out_of_fuel` shows
the bound is never hit. JSON lexing safety is easyjson's and is only observed (harness), not proved; the HTTP-level
clauses (4xx, no resource invocation) belong to the routing/end-to-end models. -/
namespace Restli.Codec

/-- no byte string makes the ROR2 reader or a generated unmarshaler index outside its input -/
theorem c04_ror2_never_panics (c : RCfg) (ty : Ty) (data : Bytes) :
    unmarshalRor2 c ty data ≠ .panic :=
  unmarshalRor2_ne_panic c ty data

/-- the same for a reader positioned anywhere inside a document, with any amount of fuel: none
of the six mutually recursive reader functions can panic -/
theorem c04_ror2_reader_functions_never_panic (c : RCfg) (fuel : Nat) : NoPanicAt c fuel :=
  have ⟨hT, hM, hL, hC, hA, hAL⟩ := readerSafe c fuel
  ⟨fun sc ty s => (hT sc ty s).1, fun sc mode s => (hM sc mode s).1,
    fun sc mode acc seen s => (hL sc mode acc seen s).1, fun sc mode acc seen k s => (hC sc mode acc seen k s).1,
    fun sc t s => (hA sc t s).1, fun sc t i s => (hAL sc t i s).1⟩

/-- the path-spec matcher never panics when the scope is non-empty, which is how both the writer
and the tracker call it -/
theorem c04_pathspec_never_panics (p : PathSpec) (path : List Bytes) (h : path ≠ []) :
    gmatches p path ≠ .panic :=
  gmatches_ne_panic p path h

/-- **no input makes the reader model run forever**: the fuel `unmarshalRor2` starts with is never
exhausted, for any byte string, schema, type or spec — every recursive call either descends one
level of generated code or consumes input, and input is never pushed back (`Proofs/Ror2Safe.lean`:
an explicit measure `2·remaining + k` per function, proved by induction on the fuel). The model is
therefore a total function whose outcomes are a value, an error, or — for hexadecimal float syntax
only — the model declining. -/
theorem c04_ror2_never_out_of_fuel (c : RCfg) (ty : Ty) (data : Bytes) :
    unmarshalRor2 c ty data ≠ .fuel :=
  unmarshalRor2_ne_fuel c ty data

/-- … and, for all six reader functions at any position, whenever the fuel is at least
`2·remaining + 5` (each function has its own constant, 5 is the largest) it does not run out and a
successful read leaves no more input than it was given -/
theorem c04_ror2_reader_functions_consume (c : RCfg) (fuel : Nat) : FuelOK c fuel :=
  have good {α : Type} {A : Prop} {n : Nat} {r : Res α} (h : Safe A n r) (a : A) : Good n r := ⟨h.2.2 a, h.2.1⟩
  have ⟨hT, hM, hL, hC, hA, hAL⟩ := readerSafe c fuel
  ⟨fun sc ty s => good (hT sc ty s), fun sc mode s => good (hM sc mode s),
    fun sc mode acc seen s => good (hL sc mode acc seen s), fun sc mode acc seen k s => good (hC sc mode acc seen k s),
    fun sc t s => good (hA sc t s), fun sc t i s => good (hAL sc t i s)⟩

/-- **the untyped-value reader** (`NewInterfaceReaderWithExcludedFields` over any tree of Go maps,
slices, scalars, nils and values of unsupported kinds) driving the generated unmarshalers never
takes a panic branch: any value, any schema, any type, any exclusion spec and ignore count. The
model is structurally recursive over the value, so it also terminates on every input. -/
theorem c04_untyped_reader_never_panics (env : Env) (tr : Tracker) (ty : Ty) (v : AnyVal) :
    unmarshalAny env tr ty v ≠ .panic :=
  unmarshalAny_ne_panic env tr ty v

/-- **the JSON reader on a parsed document**: no document the strict parser accepts makes the
generated unmarshalers take a panic branch (what the lexer does with the others is observed) -/
theorem c04_json_reader_never_panics (env : Env) (tr : Tracker) (ty : Ty) (data : Bytes) :
    unmarshalJson { env := env, tracker := tr } ty data ≠ some .panic :=
  unmarshalJson_ne_panic _ rfl ty data

/-- **the query-parameters reader** (`ParseQueryParams` + `QueryParamsReader.ReadRecord` driving a
record's generated `UnmarshalField`, every parameter read by its own ROR2 reader): on every query
string, for every schema and record type, a value or an error — no panic branch, never out of fuel -/
theorem c04_query_reader_total (env : Env) (n : TName) (q : Bytes) :
    unmarshalQuery env n q ≠ .panic ∧ unmarshalQuery env n q ≠ .fuel :=
  unmarshalQuery_total env n q

/-- the tree reader with any leaf semantics that does not panic itself -/
theorem c04_tree_reader_never_panics (c : TCfg) (hs : SemNoPanic c.sem) (t : Json.JVal) (top : Bool)
    (scope : List Seg) (ty : Ty) : treeRead c top scope ty t ≠ .panic :=
  treeRead_ne_panic c hs t top scope ty

/-- the one way `genericMatches` *can* panic: an empty path against a non-empty spec (Go indexes
`path[0]`); no caller does this -/
example : gmatches (.node [([97], .node [])]) [] = .panic := by rfl

/-! non-vacuity: inputs that end inside a map are syntax errors -/
def cfg0 : RCfg := { env := [("R", .record [] [{ name := [97], ty := .prim .i32, optional := true, dflt := none }])],
                     tracker := { excl := .empty, ignore := 0 }, plus := false }
example : (match unmarshalRor2 cfg0 (.ref "R") [40] with | .err .syntax => true | _ => false) = true := by decide +kernel
example : (match unmarshalRor2 cfg0 (.ref "R") [40, 97, 58, 49, 44] with | .err .syntax => true | _ => false) = true := by decide +kernel
example : (match unmarshalRor2 cfg0 (.ref "R") [40, 97, 58, 49, 41] with | .ok (.record [([97], .i32 1)]) _ => true | _ => false) = true := by decide +kernel

/-- untyped values of the wrong shape are answered with an error (or the value, where Go converts) -/
example : (match unmarshalAny [("R", .record [] [⟨[97], .prim .i32, false, none⟩])] { excl := .empty, ignore := 0 } (.ref "R") .nil with
  | .err .syntax => true | _ => false) = true := by decide +kernel
example : (match unmarshalAny [("R", .record [] [⟨[97], .prim .i32, false, none⟩])] { excl := .empty, ignore := 0 } (.ref "R")
    (.obj [([97], .arr [.nil])]) with | .err .syntax => true | _ => false) = true := by decide +kernel
example : (match unmarshalAny [("R", .record [] [⟨[97], .prim .i32, false, none⟩])] { excl := .empty, ignore := 0 } (.ref "R")
    (.obj [([97], .str [52, 50]), ([98], .other)]) with | .ok (.record [([97], .i32 42)]) _ => true | _ => false) = true := by decide +kernel

end Restli.Codec
