import Restli.Proofs.TunnelSample
/-! # C14 — query tunnelling is transparent

Model: `Model/Tunnel.lean` (`EncodeTunnelledQuery`, `DecodeTunnelledQuery`,
the tunnelling block of `newRequest`, the de-tunnelling call site of `ServeHTTP`; one model for the
v2 and root copies — `tunnelling.go` is byte-identical — parametrised by the constants regenerated
from each module) over `Lib/Multipart.lean` (a model of Go's mime / mime/multipart / net/textproto /
http.Header, validated against the real packages on every run — trusted, not verified).
From `Spec/Tunnel.lean`: `MustTunnel`, `BoundaryFresh`, and `Seen` / `Transparent` (equality of what routing
and resource code see).

Hypotheses, kept apart:
* the property's quantifier: any verb (`m ≠ []`), path, query, body or none, threshold, Rest.li method;
* `BoundaryFresh b q body` and `TokenBoundary b` — the **honest hypothesis about Go's random
  boundary** (60 hex digits): a collision with the payload is outside the model (trusted base);
* one **guard forced by a deviation of the current code**: `contents ≠ some []` (a body that is
  present but empty). Witness below.

An unsupported outer Content-Type is an error like the other malformed requests (case 5 of
`c14_malformed_rejected`). -/
namespace Restli.Tunnel
open Restli Restli.Url Restli.Mime Restli.TunnelSpec

/-- what routing and resource code see of a request (the specification's `Seen`) -/
def Req.seen (r : Req) : Seen :=
  { verb := r.method, path := r.path, rawQuery := r.rawQuery,
    body := (match r.body with
             | .bytes b => some b
             | _ => none),
    header := fun k => r.header.find k, requestURI := r.requestURI }

/-- The constants of `restli/http.go` (v2), as regenerated from source, satisfy everything the
theorems below assume about them: canonical and distinct header names, the three content types
distinct and parsed by `mime.ParseMediaType` as themselves, `multipart/mixed` / `boundary` usable
in `mime.FormatMediaType`. Editing one of them re-runs this evaluation. -/
theorem c14_constants_good_v2 : goodB constsV2 = true :=
  (Bool.and_eq_true_iff.1 constants_good).1

/-- the same for the root module's copy -/
theorem c14_constants_good_root : goodB constsRoot = true :=
  (Bool.and_eq_true_iff.1 constants_good).2

/-- C14's transparency for one input: both requests can be built, and de-tunnelling the tunnelled
one yields exactly the untunnelled one. -/
def RoundTrips (K : Consts) (b : Bytes) (T : Nat) (path : Bytes) (fq : Bool) (q m rm : Bytes)
    (contents : Option Bytes) : Prop :=
  match sentRequest K b T path fq q m rm contents, sentRequest K b 0 path fq q m rm contents with
  | .ok sent, .ok untunnelled => decodeTunnelledQuery K sent = .ok untunnelled
  | _, _ => False

/-- The full-strength transparency statement (no guard on the body). FALSE for the current code
(`c14_transparency_false`). -/
def C14Full : Prop :=
  ∀ (K : Consts) (b : Bytes) (T : Nat) (path : Bytes) (fq : Bool) (q m rm : Bytes) (contents : Option Bytes),
    goodB K = true → TokenBoundary b → MustTunnel T q → m ≠ [] → BoundaryFresh b q (contents.getD []) →
    RoundTrips K b T path fq q m rm contents

/-- **Tunnelling is transparent.** For every verb, path, query, body (absent or non-empty), Rest.li
method and threshold such that the client tunnels (`0 < T < |q|`), and every boundary `b` that is
a token not occurring (as `--b`) in query or body: the request the client sends, de-tunnelled by
the server's `DecodeTunnelledQuery`, IS the request the client would have sent with tunnelling off
— the same verb, path, raw query, body, request target and the same headers (content type and
Rest.li headers included); nothing else is left (the override header is gone). No bound on any
length. -/
theorem c14_detunnel_tunnel_id (K : Consts) (hK : goodB K = true) (b : Bytes) (hb : TokenBoundary b)
    (T : Nat) (path : Bytes) (fq : Bool) (q m rm : Bytes) (contents : Option Bytes)
    (hT : MustTunnel T q) (hm : m ≠ [])
    (hfresh : BoundaryFresh b q (contents.getD []))
    (guard : contents ≠ some []) :
    ∃ sent untunnelled, sentRequest K b T path fq q m rm contents = .ok sent ∧
      sentRequest K b 0 path fq q m rm contents = .ok untunnelled ∧
      decodeTunnelledQuery K sent = .ok untunnelled ∧
      (∀ r, decodeTunnelledQuery K sent = .ok r → Transparent r.seen untunnelled.seen) := by
  obtain ⟨sent, orig, h1, h2, h3⟩ := decode_sent K (good_of_B K hK) b hb T path fq q m rm contents
    ((shouldTunnel_iff T q).2 hT) hm hfresh guard
  refine ⟨sent, orig, h1, h2, h3, ?_⟩
  intro r hr
  cases h3.symm.trans hr
  rfl

/-- the same, in the form whose unguarded version is `C14Full` -/
theorem c14_roundtrips_partial (K : Consts) (hK : goodB K = true) (b : Bytes) (hb : TokenBoundary b)
    (T : Nat) (path : Bytes) (fq : Bool) (q m rm : Bytes) (contents : Option Bytes)
    (hT : MustTunnel T q) (hm : m ≠ []) (hfresh : BoundaryFresh b q (contents.getD []))
    (guard : contents ≠ some []) : RoundTrips K b T path fq q m rm contents := by
  obtain ⟨sent, orig, h1, h2, h3, _⟩ := c14_detunnel_tunnel_id K hK b hb T path fq q m rm contents hT hm hfresh guard
  simp only [RoundTrips, h1, h2, h3]

/-- **The threshold is exact.** The client tunnels a request iff `0 < threshold < len(rawQuery)`.
When it does not, the request is exactly the one built with tunnelling off (sent untouched); when
it does, the request is a POST without URL query that carries the verb in the override header. -/
theorem c14_threshold_exact (K : Consts) (hK : goodB K = true) (b : Bytes) (hb : TokenBoundary b)
    (T : Nat) (path : Bytes) (fq : Bool) (q m rm : Bytes) (contents : Option Bytes) :
    (¬ MustTunnel T q → sentRequest K b T path fq q m rm contents = sentRequest K b 0 path fq q m rm contents) ∧
    (MustTunnel T q → ∃ sent, sentRequest K b T path fq q m rm contents = .ok sent ∧
        sent.method = methodPost ∧ sent.rawQuery = [] ∧ sent.header.get K.hdrOverride = m ∧ sent.path = path) ∧
    (∀ r, sentRequest K b 0 path fq q m rm contents = .ok r →
        r.header.get K.hdrOverride = [] ∧ r.method = m ∧ r.rawQuery = q) := by
  have g := good_of_B K hK
  refine ⟨?_, ?_, ?_⟩
  · intro hn
    rw [sent_plain K g b T path fq q m rm contents ((shouldTunnel_false_iff T q).2 hn),
      sent_plain K g b 0 path fq q m rm contents (shouldTunnel_zero q)]
  · intro ht
    -- the outer Content-Type: form-urlencoded without a body, else what `FormatMediaType` makes of the boundary
    obtain ⟨ct, hct⟩ : ∃ ct, if (contents.getD []).isEmpty then ct = K.ctForm
        else formatMediaType1 K.ctMultipart K.boundaryParam b = .ok ct := by
      split
      · exact ⟨_, rfl⟩
      · obtain ⟨ct, h, _⟩ := parse_format_mediatype _ _ b g.media hb.tok
        exact ⟨ct, h⟩
    exact ⟨_, sent_tunnelled K g b T path fq q m rm contents ((shouldTunnel_iff T q).2 ht) ct hct, rfl, rfl,
      (detunnel_headers K g rm m ct).1, rfl⟩
  · intro r hr
    rw [sent_plain K g b 0 path fq q m rm contents (shouldTunnel_zero q)] at hr
    cases hr
    refine ⟨?_, rfl, rfl⟩
    apply plain_header_no_override K g rm
    cases contents <;> simp

/-- A request that was not tunnelled passes `DecodeTunnelledQuery` unchanged. -/
theorem c14_untunnelled_untouched (K : Consts) (hK : goodB K = true) (b : Bytes) (path : Bytes) (fq : Bool)
    (q m rm : Bytes) (contents : Option Bytes) (T : Nat) (hn : ¬ MustTunnel T q) :
    ∃ r, sentRequest K b T path fq q m rm contents = .ok r ∧ decodeTunnelledQuery K r = .ok r := by
  have g := good_of_B K hK
  refine ⟨_, sent_plain K g b T path fq q m rm contents ((shouldTunnel_false_iff T q).2 hn), ?_⟩
  apply decode_no_override
  apply plain_header_no_override K g rm
  cases contents <;> simp

/-- **Malformed tunnelled requests are answered with the error status and never routed**
(`s` is the status of the `http.Error` call, regenerated from `handler.go`: `Gen.detunnelErrorStatus`):

1. the override header on a POST together with a URL query;
2. a `multipart/mixed` body (written with the boundary named in the Content-Type) without a
   form-urlencoded part — *missing query part*;
3. … without a JSON part — *missing body part*;
4. … with a part of any other type after any number of known parts — *unknown part type*;
5. an outer Content-Type that is neither form-urlencoded nor multipart/mixed — including a missing
   or unparsable one, for which `mime.ParseMediaType` yields the media type `""`. -/
theorem c14_malformed_rejected (K : Consts) (hK : goodB K = true) (s : Nat) (req : Req)
    (hmeth : req.method = methodPost) (hov : req.header.get K.hdrOverride ≠ []) :
    (req.rawQuery ≠ [] → detunnelSite K s req = .respond s) ∧
    (∀ (b : Bytes) (ps : List WPart) (params : List (Bytes × Bytes)), TokenBoundary b → req.rawQuery = [] →
      parseMediaType ((req.header.del K.hdrOverride).get K.hdrContentType) = .ok (K.ctMultipart, params) →
      params.lookup K.boundaryParam = some b → req.body = .bytes (writeParts b ps) →
      (∀ p ∈ ps, p.key = K.hdrContentType ∧ GoodPart b p) →
      ((∀ p ∈ ps, p.value ≠ K.ctForm) ∨ (∀ p ∈ ps, p.value ≠ K.ctJson) ∨
        (∃ pre u post, ps = pre ++ u :: post ∧ (∀ p ∈ pre, p.value = K.ctForm ∨ p.value = K.ctJson) ∧
          u.value ≠ K.ctForm ∧ u.value ≠ K.ctJson)) →
      detunnelSite K s req = .respond s) ∧
    (∀ (mt : Bytes) (params : List (Bytes × Bytes)), req.rawQuery = [] → req.body ≠ .nil →
      parseMediaType (getAndDelete (req.header.del K.hdrOverride) K.hdrContentType).1 = .ok (mt, params) →
      mt ≠ K.ctForm → mt ≠ K.ctMultipart → detunnelSite K s req = .respond s) := by
  -- `ServeHTTP` answers an error of `DecodeTunnelledQuery` with the status and does not route
  have site : decodeTunnelledQuery K req = .err → detunnelSite K s req = .respond s := fun h => by
    rw [detunnelSite, h]
  refine ⟨fun hq => site (decode_with_query K req hmeth hov hq), ?_,
    fun mt params hq hbody hct h1 h2 =>
      site (decode_unsupported K req hmeth hov hq hbody mt params (getAndDelete_fst _ _ ▸ hct) h1 h2)⟩
  intro b ps params hb hq hct hbp hbody hps hcase
  apply site
  rw [decode_multipart K (good_of_B K hK) req b hb ps params hmeth hov hq hct hbp hbody hps]
  cases hf : foldParts K ps [] .nil ((req.header.del K.hdrOverride).del K.hdrContentType) with
  | none => rfl
  | some r =>
    obtain ⟨q', body', h'⟩ := r
    obtain ⟨hknown, hq', hb'⟩ := foldParts_some K ps _ _ _ _ _ _ hf
    rcases hcase with h | h | ⟨pre, u, post, rfl, _, hu⟩
    · -- no form-urlencoded part: the query is still empty
      obtain rfl : q' = [] := hq'.resolve_right fun ⟨p, hp, e⟩ => h p hp e
      rfl
    · -- no JSON part: the body is still nil
      obtain rfl : body' = .nil := hb'.resolve_right fun ⟨p, hp, e⟩ => h p hp e
      simp
    · exact absurd (hknown u (by simp)) (not_or.2 hu)

/-! ## Deviations of the current code (witnesses; each confirmed on the real code by `bin/check C14`) -/

/-- The guard of `c14_detunnel_tunnel_id` is needed: a body that is present but empty is sent as
form-urlencoded, and after de-tunnelling the `Content-Type: application/json` the untunnelled
request carries is gone. (Reachable through the exported `EncodeTunnelledQuery`; a Marshaler handed
to the v2 client constructors always yields at least `null`.) -/
theorem c14_empty_body_content_type_cex :
    ¬ RoundTrips constsV2 (strB "BOUNDARY") 1 (strB "/coll/1") false (strB "a=b") (strB "PUT") (strB "update") (some []) := by
  have g := good_of_B _ c14_constants_good_v2
  obtain ⟨sent, h1, h2⟩ := decode_sent_nobody constsV2 g (strB "BOUNDARY") 1
    (strB "/coll/1") false (strB "a=b") (strB "PUT") (strB "update") (some []) (by decide +kernel) (by decide +kernel) rfl
  simp only [RoundTrips, h1, h2, sent_plain constsV2 g _ 0 _ _ _ _ _ _ (shouldTunnel_zero _)]
  -- the two requests differ in their headers
  simp

/-- … precisely: the untunnelled request carries `Content-Type: application/json`, the de-tunnelled one none -/
theorem c14_empty_body_content_type_lost :
    (match sentRequest constsV2 (strB "BOUNDARY") 1 (strB "/coll/1") false (strB "a=b") (strB "PUT") (strB "update") (some []),
           sentRequest constsV2 (strB "BOUNDARY") 0 (strB "/coll/1") false (strB "a=b") (strB "PUT") (strB "update") (some []) with
     | .ok sent, .ok untunnelled =>
       (match decodeTunnelledQuery constsV2 sent with
        | .ok r => (untunnelled.header.get constsV2.hdrContentType, r.header.get constsV2.hdrContentType)
        | _ => ([], []))
     | _, _ => ([], [])) = (constsV2.ctJson, []) := by
  have g := good_of_B _ c14_constants_good_v2
  obtain ⟨sent, h1, h2⟩ := decode_sent_nobody constsV2 g (strB "BOUNDARY") 1
    (strB "/coll/1") false (strB "a=b") (strB "PUT") (strB "update") (some []) (by decide +kernel) (by decide +kernel) rfl
  simp only [h1, h2, sent_plain constsV2 g _ 0 _ _ _ _ _ _ (shouldTunnel_zero _), plain_header_content_type constsV2 g]
  rfl

/-- The full-strength transparency statement fails on the current code. -/
theorem c14_transparency_false : ¬ C14Full := by
  intro h
  exact c14_empty_body_content_type_cex
    (h constsV2 (strB "BOUNDARY") 1 (strB "/coll/1") false (strB "a=b") (strB "PUT") (strB "update") (some [])
      c14_constants_good_v2 ⟨by decide +kernel, by decide +kernel⟩ (by decide +kernel) (by decide +kernel)
      ⟨by decide +kernel, by decide +kernel⟩)

/-! ## Non-vacuity -/

example : TokenBoundary sampleBoundary := sample_token
example : MustTunnel 5 sampleQuery := sample_mustTunnel
example : BoundaryFresh sampleBoundary sampleQuery sampleBody := sample_fresh
/-- the tunnelled request really is a multipart POST, and de-tunnelling it gives the PUT back -/
example : (match sentRequest constsV2 sampleBoundary 5 (strB "/coll/1") false sampleQuery (strB "PUT") (strB "update") (some sampleBody) with
    | .ok sent => (sent.method, sent.rawQuery, (match decodeTunnelledQuery constsV2 sent with
        | .ok r => (r.method, r.rawQuery, r.body) | _ => ([], [], .nil)))
    | _ => ([], [], [], [], .nil)) = (strB "POST", [], strB "PUT", sampleQuery, .bytes sampleBody) := by
  -- an instance of the two theorems above, the sample facts being their hypotheses
  have hne : some sampleBody ≠ some [] := fun e => sample_body_ne (Option.some.inj e)
  obtain ⟨sent, orig, h1, h2, h3, _⟩ := c14_detunnel_tunnel_id constsV2 c14_constants_good_v2 sampleBoundary sample_token 5
    (strB "/coll/1") false sampleQuery (strB "PUT") (strB "update") (some sampleBody) sample_mustTunnel (by decide +kernel)
    sample_fresh hne
  obtain ⟨sent', h1', hmeth, hq, _⟩ := (c14_threshold_exact constsV2 c14_constants_good_v2 sampleBoundary sample_token 5
    (strB "/coll/1") false sampleQuery (strB "PUT") (strB "update") (some sampleBody)).2.1 sample_mustTunnel
  cases h1.symm.trans h1'
  rw [sent_plain constsV2 (good_of_B _ c14_constants_good_v2) _ 0 _ _ _ _ _ _ rfl] at h2
  obtain rfl := Res.ok.inj h2
  simp only [h1, h3, hmeth, hq]
  simp [bodyOf, sample_body_ne]
  rfl
/-- malformed requests exist: a missing query part -/
example : detunnelSite constsV2 Gen.detunnelErrorStatus
    { method := methodPost, path := strB "/coll/1", forceQuery := false, rawQuery := [],
      header := [(strB "X-Http-Method-Override", [strB "GET"]), (strB "Content-Type", [strB "multipart/mixed; boundary=B"])],
      body := .bytes (writeParts (strB "B") [⟨strB "Content-Type", strB "application/json", strB "{}"⟩]),
      requestURI := strB "/coll/1" } = .respond 400 := by
  simp only [constsV2, methodPost, strB_eq]; decide +kernel
/-- … an unsupported outer Content-Type -/
example : detunnelSite constsV2 Gen.detunnelErrorStatus
    { method := methodPost, path := strB "/coll/1", forceQuery := false, rawQuery := [],
      header := [(strB "X-Http-Method-Override", [strB "GET"]), (strB "Content-Type", [strB "text/plain"])],
      body := .bytes (strB "a=b"), requestURI := strB "/coll/1" } = .respond 400 := by
  simp only [constsV2, methodPost, strB_eq]; decide +kernel
/-- … a missing one -/
example : detunnelSite constsV2 Gen.detunnelErrorStatus
    { method := methodPost, path := strB "/coll/1", forceQuery := false, rawQuery := [],
      header := [(strB "X-Http-Method-Override", [strB "GET"])],
      body := .bytes (strB "a=b"), requestURI := strB "/coll/1" } = .respond 400 := by
  simp only [constsV2, methodPost, strB_eq]; decide +kernel

end Restli.Tunnel
