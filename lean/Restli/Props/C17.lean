import Restli.Proofs.SharedCells
/-!
# C17 — concurrent use: requests do not interfere

Scope of what is proved here. The objects are those of `Model/SharedCells.lean`: an interleaving
semantics in which every access to a shared cell is one atomic step. *Data races* (Go memory model)
are not expressible in it and are not claimed absent by any theorem below; they are observed by the
race-detector harness of this check. What the theorems carry is the non-interference argument:
requests that write only request-local state commute, for every schedule, any number of requests and
any number of steps. Two program variants do write a shared cell and are kept as witnesses: the error
branch that stores the default message through the resource's pointer, and the two-step draw from
the shared random source. Which variant /repo has is read off switches regenerated from the Go source
(`serveNow`, `resolveNow`); for both module generations they select the copying branch and the atomic
draw. The resolver's `choose` is any function of snapshot and draw: C17 does not need the selection
rule of `Model/D2.lean`.
-/
namespace Restli.SharedCells

universe u v

/-- **Requests commute.** If no action of any request changes the shared state it starts from
(whatever request-local state, satisfying a local invariant `I`, it is run from), then for EVERY
schedule — any number of requests, any number of steps — the shared cells are unchanged and every
request is exactly where it would be had it taken the same number of steps with nobody else running. -/
theorem c17_requests_commute {S : Type u} {L : Type v} (sys : Sys S L) (I : L → Prop)
    (hI : ∀ t ∈ sys.threads, I t.loc)
    (hro : ∀ t ∈ sys.threads, ∀ a ∈ t.todo, ReadOnlyAt sys.shared I a)
    (sched : Schedule) :
    (run sys sched).shared = sys.shared ∧
    ∀ i t, sys.threads[i]? = some t →
      (run sys sched).threads[i]? = some (advance sys.shared t (sched.count i)).2 := by
  have h := run_ro sys I (fun t ht => ⟨hI t ht, hro t ht⟩) sched
  exact ⟨h.1, fun i t hi => (h.2 i t hi).2⟩

/-- **Each request observes its serial outcome.** Under the same premise, once a request has been
given at least as many steps as it has actions, its final local state (status, headers, body, keys,
parameters, chosen adapter …) is the one of the run in which it is alone, and that run leaves the
shared cells unchanged too. -/
theorem c17_requests_commute_complete {S : Type u} {L : Type v} (sys : Sys S L) (I : L → Prop)
    (hI : ∀ t ∈ sys.threads, I t.loc)
    (hro : ∀ t ∈ sys.threads, ∀ a ∈ t.todo, ReadOnlyAt sys.shared I a)
    (sched : Schedule) (i : Nat) (t : Thread S L)
    (hi : sys.threads[i]? = some t) (hdone : t.todo.length ≤ sched.count i) :
    (run sys sched).threads[i]? = some (runAlone sys.shared t).2 ∧
    (runAlone sys.shared t).1 = sys.shared ∧ (runAlone sys.shared t).2.todo = [] := by
  have h := (run_ro sys I (fun t ht => ⟨hI t ht, hro t ht⟩) sched).2 i t hi
  rw [advance_ge hdone] at h
  exact ⟨h.2, h.1, runAlone_done _ t⟩

/-- **One writer.** If one thread `w` changes the shared state only inside a region (`R`-classes:
"equal outside the region"), and every other thread only reads and computes the same result on
`R`-related states (it never looks inside the region), then for every schedule the writer and the
shared state are exactly where the writer's solo run puts them, and every other request is where
its own solo run from the initial state puts it. -/
theorem c17_single_writer_commute {S : Type u} {L : Type v} (R : S → S → Prop) (hrefl : ∀ s, R s s)
    (sys : Sys S L) (w : Nat) (tw : Thread S L) (hw : sys.threads[w]? = some tw)
    (hwithin : ∀ a ∈ tw.todo, ∀ s l, R s (a.step s l).1)
    (hblind : ∀ i t, i ≠ w → sys.threads[i]? = some t → ∀ a ∈ t.todo,
      (∀ s l, (a.step s l).1 = s) ∧ ∀ s s' l, R s s' → (a.step s l).2 = (a.step s' l).2)
    (sched : Schedule) :
    (run sys sched).shared = (advance sys.shared tw (sched.count w)).1 ∧
    (run sys sched).threads[w]? = some (advance sys.shared tw (sched.count w)).2 ∧
    ∀ i t, i ≠ w → sys.threads[i]? = some t →
      (run sys sched).threads[i]? = some (advance sys.shared t (sched.count i)).2 := by
  -- the writer: nobody else moves the shared state, so its solo state IS the real state
  have hwr := run_sim (fun σ s => σ = s) (fun _ => True) (ThreadBlind R)
    (fun σ s u hV _ => hV ▸ ⟨rfl, rfl, trivial⟩)
    (fun σ s u hV hu => ⟨hV.trans (stepThread_blind hu s).1.symm, (stepThread_blind hu s).2.1⟩)
    w sched sys.shared sys tw rfl hw trivial hblind
  refine ⟨hwr.1.symm, hwr.2, fun i t hi ht => run_blind R hrefl sys ?_ sched i t ht (hblind i t hi ht)⟩
  intro u hu
  obtain ⟨j, hj⟩ := List.getElem?_of_mem hu
  by_cases e : j = w
  · rw [e, hw] at hj; cases hj; exact Or.inl hwithin
  · exact Or.inr (hblind j u e hj)

/-- **The server: requests do not interfere.** For both module generations (their regenerated
switch selects the copying error branch), any routing tree, registry, error objects (shared between requests or not, with or without
`Message`/`Status`), any list of requests (any mix of successes, fresh errors, shared error objects,
plain errors, panics, unknown resources and methods) and adapter look-ups, and EVERY schedule: the
shared cells are unchanged, and every request that ran to completion has the outcome of its solo
run. (The proof reads `storesThroughPointer = false` off the regenerated table, so re-introducing
the store breaks it.) -/
theorem c17_server_commutes (C : Consts) (hC : C = constsV2 ∨ C = constsRoot) (s : Shared)
    (reqs : List Req) (tys : List Nat) (sched : Schedule) :
    (run (serverSys C s reqs tys) sched).shared = s ∧
    ∀ i t, (serverSys C s reqs tys).threads[i]? = some t → t.todo.length ≤ sched.count i →
      (run (serverSys C s reqs tys) sched).threads[i]? = some (runAlone s t).2 :=
  serverSys_commutes C (by rcases hC with rfl | rfl <;> decide) s reqs tys sched

/-- the two-request witness for F8: one error object `{Status: 404}` (no message) owned by the
resource and returned to both requests, served by the error branch that stores through the pointer -/
def errCexSys : Sys Shared Local :=
  storingSys constsV2 ⟨[(1, [1])], [], [⟨some 404, none⟩], [], 0⟩
    [⟨1, 1, 10, 20, .errShared 0⟩, ⟨1, 1, 11, 21, .errShared 0⟩] []

/-- both requests test `errRes.Message == nil` before either stores -/
def errCexSched : Schedule := [0, 0, 0, 0, 0, 1, 1, 1, 1, 1, 0, 1, 0, 0, 1, 1]

/-- **An error branch that stores through the resource's pointer writes a shared cell (F8).** The
conclusion of `c17_requests_commute` ("shared cells unchanged") is false for
that program on a two-request witness: the read-only premise cannot be dropped, and the check's
seeded regression (re-introducing `errRes.Message = …`) is a genuine violation. -/
theorem c17_shared_error_object_cex :
    ¬ ∀ sched, (run errCexSys sched).shared = errCexSys.shared := by
  intro h
  exact absurd (h errCexSched) (by decide +kernel)

/-- … and on that witness BOTH requests store into the same object (the pattern the race detector
reports as a write/write race on `ErrorResponse.Message`), leaving it changed for every later request. -/
theorem c17_shared_error_object_double_write :
    (outcomes (run errCexSys errCexSched)).map (·.wrote) = [true, true] ∧
    (run errCexSys errCexSched).shared.errs = [⟨some 404, some (.statusText 404)⟩] := by
  decide +kernel

/-- **Random source under a lock: no draw is handed out twice.** Any number of resolver calls whose
draw is one atomic step (`rng` read and advanced under `rngLock`), next to any number of server requests and
adapter look-ups: after EVERY schedule the draws held by different requests are pairwise distinct
and all lie below the generator position — no update is lost. -/
theorem c17_rng_locked_draws_distinct (C : Consts) (s : Shared) (nResolvers : Nat) (reqs : List Req)
    (tys : List Nat) (sched : Schedule) :
    DrawsOk
      (run (mkSys s (List.replicate nResolvers (resolveProg true) ++ (reqs.map (serveProg C true) ++ tys.map loadProg))) sched).shared
      (run (mkSys s (List.replicate nResolvers (resolveProg true) ++ (reqs.map (serveProg C true) ++ tys.map loadProg))) sched).threads :=
  mkSys_drawsOk s _ (resolverProgs_drawOrInert C nResolvers reqs tys) sched

/-- **Regions.** If every thread either changes the shared state only inside a region (`R`-classes:
"equal outside the region"; `R` reflexive and transitive) or only reads and never looks inside it,
then for every schedule the shared state is unchanged outside the region and every thread of the
second kind is where its solo run from the initial state puts it — however many writers there are. -/
theorem c17_region_writers_commute {S : Type u} {L : Type v} (R : S → S → Prop) (hrefl : ∀ s, R s s)
    (htrans : ∀ a b c, R a b → R b c → R a c) (sys : Sys S L)
    (hkinds : ∀ t ∈ sys.threads,
      (∀ a ∈ t.todo, ∀ s l, R s (a.step s l).1) ∨
      (∀ a ∈ t.todo, (∀ s l, (a.step s l).1 = s) ∧ ∀ s s' l, R s s' → (a.step s l).2 = (a.step s' l).2))
    (sched : Schedule) :
    R sys.shared (run sys sched).shared ∧
    ∀ i t, sys.threads[i]? = some t →
      (∀ a ∈ t.todo, (∀ s l, (a.step s l).1 = s) ∧ ∀ s s' l, R s s' → (a.step s l).2 = (a.step s' l).2) →
      (run sys sched).threads[i]? = some (advance sys.shared t (sched.count i)).2 :=
  ⟨run_region R hrefl htrans sys hkinds sched, run_blind R hrefl sys hkinds sched⟩

/-- **The resolver: requests do not interfere.** For both module generations (their regenerated
switches select the copying error branch and the atomic draw), any number `n` of concurrent resolver calls next to any server
requests and adapter look-ups, and EVERY schedule: nothing but the generator position changes in the
shared state; the draws handed to different calls are pairwise distinct and below the generator
position (no update is lost, no draw is handed out twice); and every other request that ran to
completion has the outcome of its solo run. (The proof reads `rngUnlocked = false` off the
regenerated table, so removing the lock breaks it.) -/
theorem c17_resolvers_commute (C : Consts) (hC : C = constsV2 ∨ C = constsRoot) (s : Shared) (n : Nat)
    (reqs : List Req) (tys : List Nat) (sched : Schedule) :
    EqExceptRng s (run (resolverSys C s n reqs tys) sched).shared ∧
    DrawsOk (run (resolverSys C s n reqs tys) sched).shared (run (resolverSys C s n reqs tys) sched).threads ∧
    ∀ i t, (resolverSys C s n reqs tys).threads[i]? = some t → t.todo ≠ resolveNow C →
      t.todo.length ≤ sched.count i →
      (run (resolverSys C s n reqs tys) sched).threads[i]? = some (runAlone s t).2 :=
  resolverSys_commutes C (by rcases hC with rfl | rfl <;> decide) (by rcases hC with rfl | rfl <;> decide)
    s n reqs tys sched

/-- a server with two resources, an error object shared between requests (no message, so the
storing error branch writes into it) and one without status -/
def demoShared : Shared :=
  ⟨[(1, [1, 2]), (2, [1])], [(5, 50)], [⟨some 404, none⟩, ⟨none, none⟩], [(7, 1), (8, 3)], 0⟩

def demoReqs : List Req :=
  [⟨1, 1, 10, 20, .ok 100⟩, ⟨1, 2, 11, 21, .errShared 0⟩, ⟨2, 1, 12, 22, .panic⟩,
   ⟨3, 1, 13, 23, .ok 0⟩, ⟨1, 3, 14, 24, .ok 0⟩, ⟨2, 1, 15, 25, .errShared 1⟩, ⟨1, 1, 16, 26, .errPlain⟩]

/-- a round-robin schedule over the seven requests and the adapter look-up -/
def demoSched : Schedule := (List.replicate 9 [7, 0, 6, 1, 5, 2, 4, 3]).flatten

/-- the server of module v2 under a genuinely interleaved schedule: seven different outcomes (200 with
the request's own key and parameter, 404 from the shared object with the message filled in a copy,
500 from the panic, plain 404, 400, 500 from the status-less shared object, 500), the registered
adapter found — and the shared objects untouched. -/
example :
    (outcomes (run (serverSys constsV2 demoShared demoReqs [5]) demoSched)).map
        (fun l => (l.notFound, l.status, l.errHeader, l.body, l.adapter)) =
      [(false, 200, false, .entity 100 10 20, none),
       (false, 404, true, .error (some 404) (some (.statusText 404)), none),
       (false, 500, true, .error (some 500) (some (.custom 2)), none),
       (true, 0, false, .none, none),
       (false, 400, true, .error (some 400) (some (.custom 0)), none),
       (false, 500, true, .error none (some (.statusText 500)), none),
       (false, 500, true, .error (some 500) (some (.custom 1)), none),
       (false, 0, false, .none, some (some 50))] ∧
    (run (serverSys constsV2 demoShared demoReqs [5]) demoSched).shared = demoShared := by
  decide +kernel

/-- the same requests through the storing error branch: the shared object is
changed, and the request that got the status-less object crashes outside `recover` (F8's other half) -/
example :
    (run (storingSys constsV2 demoShared demoReqs [5]) demoSched).shared.errs =
        [⟨some 404, some (.statusText 404)⟩, ⟨none, none⟩] ∧
    (outcomes (run (storingSys constsV2 demoShared demoReqs [5]) demoSched)).map (·.crashed) =
        [false, false, false, false, false, true, false, false] := by
  decide +kernel

/-- the two-step draw (`resolveProg false`: a read step and a write step with a gap between them) loses an update:
both calls read before either writes back, draw 0 and choose host 7, the generator stands at 1;
serially the draws are 0 and 1, the hosts 7 and 8, the generator stands at 2 -/
example :
    let unlocked := mkSys ⟨[], [], [], [(7, 1), (8, 1)], 0⟩ [resolveProg false, resolveProg false]
    (final unlocked [0, 0, 1, 1, 0, 1, 0, 1]).2.map (fun l => (l.draw, l.host)) = [(some 0, some (some 7)), (some 0, some (some 7))] ∧
    (final unlocked [0, 0, 1, 1, 0, 1, 0, 1]).1.rng = 1 ∧
    (final unlocked (serialSchedule unlocked [0, 1])).2.map (fun l => (l.draw, l.host)) =
      [(some 0, some (some 7)), (some 1, some (some 8))] ∧
    (final unlocked (serialSchedule unlocked [0, 1])).1.rng = 2 ∧
    ¬ SerialEquivalent2 unlocked [0, 0, 1, 1, 0, 1, 0, 1] := by
  decide +kernel

/-- with the draw under a lock the same schedule shape is serial-equivalent -/
example : SerialEquivalent2 (mkSys ⟨[], [], [], [(7, 1), (8, 1)], 0⟩ [resolveProg true, resolveProg true])
    [0, 1, 1, 0, 1, 0] := by
  decide +kernel

/-- three locked resolver calls interleaved step by step: draws 0, 1, 2 — each handed out once -/
example :
    (outcomes (run (mkSys ⟨[], [], [], [(7, 1), (8, 1)], 0⟩ (List.replicate 3 (resolveProg true)))
      [0, 1, 2, 2, 1, 0, 0, 1, 2])).map (·.draw) = [some 2, some 1, some 0] := by
  decide +kernel

/-- the resolver theorem on a run of two resolver calls, seven server requests and an adapter look-up,
interleaved round-robin: the generator advances twice, nothing else changes, the two calls hold
draws 0 and 1 and choose different hosts -/
example :
    (run (resolverSys constsV2 demoShared 2 demoReqs [5]) (List.replicate 9 (List.range 10)).flatten).shared =
      { demoShared with rng := 2 } ∧
    ((outcomes (run (resolverSys constsV2 demoShared 2 demoReqs [5]) (List.replicate 9 (List.range 10)).flatten)).take 2).map
      (fun l => (l.draw, l.host)) = [(some 0, some (some 7)), (some 1, some (some 8))] := by
  decide +kernel

end Restli.SharedCells
