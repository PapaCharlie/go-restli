import Restli.Proofs.EqualEncode
import Restli.Proofs.GenEqualsFuel
import Restli.Proofs.EncodeFuel
/-! # C09 — deterministic, canonical serialization (v2)

The writer model sorts the entries of every object by key (`EncCfg.sortKeys`, what v2's
`WriteMap` does). These theorems say that the sorted output is a function of the *set* of
entries (Go's map iteration order, or the order in which fields were produced, is a permutation
of it), and that keys come out strictly ascending in byte order. Go maps have distinct keys and
well-formed schemas distinct field names: that is the `KeysNodup` hypothesis. -/
namespace Restli.Codec

/-- the emitted member order does not depend on the order in which the entries were produced -/
theorem c09_sorted_entries_perm_invariant {α : Type} (l₁ l₂ : List (Bytes × α)) (hp : l₁.Perm l₂)
    (hn : KeysNodup l₁) : sortByKey l₁ = sortByKey l₂ :=
  sortByKey_perm l₁ l₂ hp hn

/-- object keys appear in strictly ascending byte order -/
theorem c09_keys_ascending {α : Type} (l : List (Bytes × α)) (hn : KeysNodup l) :
    SortedKeys (sortByKey l) :=
  sortByKey_sorted l hn

/-- **map-typed values at any depth**: encoding a map does not depend on the order in which the
runtime enumerates its entries — same document, hence same bytes in every format. -/
theorem c09_map_encoding_order_independent (c : EncCfg) (hs : c.sortKeys = true) (fuel : Nat)
    (scope : List Bytes) (t : Ty) (es₁ es₂ : List (Bytes × Value)) (hp : es₁.Perm es₂)
    (hn : KeysNodup es₁) (d : Doc)
    (h : encode c (fuel + 1) scope (.map t) (.map es₁) = .ok d) :
    encode c (fuel + 1) scope (.map t) (.map es₂) = .ok d :=
  encode_map_eq_of_perm c hs fuel scope t hp hn h

/-- every object the v2 writer model emits for a map has strictly ascending keys -/
theorem c09_map_keys_ascending (c : EncCfg) (hs : c.sortKeys = true) (fuel : Nat)
    (scope : List Bytes) (t : Ty) (es : List (Bytes × Value)) (hn : KeysNodup es) (kvs : List (Bytes × Doc))
    (h : encode c (fuel + 1) scope (.map t) (.map es) = .ok (.obj kvs)) : SortedKeys kvs := by
  rw [encode_map] at h
  obtain ⟨r, h1, h⟩ := bind_ok_inv h
  have h2 : c.finish r = .obj kvs := Except.ok.inj h
  rw [EncCfg.finish, hs, if_pos rfl] at h2
  cases h2
  exact sortByKey_sorted r ((encodeKeyed_keys _ _ es r h1).nodup hn)

example : sortByKey [(([98] : Bytes), 1), ([97], 2), ([66], 3), ([97, 0], 4)]
    = [([66], 3), ([97], 2), ([97, 0], 4), ([98], 1)] := by decide
example : KeysNodup [(([98] : Bytes), 1), ([97], 2), ([66], 3), ([97, 0], 4)] := by unfold KeysNodup; decide

/-! ## Equal values encode identically

`valueEqZ` is the generated `Equals` (`Model/GenEquals.lean`, tied to the generated code by the
`geq` correspondence op) with "and the two do not differ in the sign of a zero" at the float
leaves. `ValOK` says the value is a Go value: integers and float bit patterns fit their width,
maps have distinct keys. -/

/-- the premise is Equal-and-more: it implies the generated `Equals` -/
theorem c09_equalZ_implies_equal (env : Env) (f : Nat) (ty : Ty) (a b : Value) (ha : ValOK a) (hb : ValOK b)
    (h : valueEqZ env f ty a b = true) : valueEq env f ty a b = true :=
  valueEqZ_valueEq env f ty a b (mapsOK_of_valOK a ha) (mapsOK_of_valOK b hb) h

/-- and what it adds is exactly the zero-sign case: floats that are `==` but differ in their bit
pattern are both zeros -/
theorem c09_equal_floats_differ_only_in_zero_sign :
    (∀ a b : UInt32, Equals.floatEq32 a b = true → a ≠ b → Equals.isZero32 a = true ∧ Equals.isZero32 b = true) ∧
    (∀ a b : UInt64, Equals.floatEq64 a b = true → a ≠ b → Equals.isZero64 a = true ∧ Equals.isZero64 b = true) := by
  constructor
  · intro a b h hne
    unfold Equals.floatEq32 at h
    split at h
    · cases h
    · split at h
      · next hz => simpa using hz
      · exact absurd (by simpa using h) hne
  · intro a b h hne
    unfold Equals.floatEq64 at h
    split at h
    · cases h
    · split at h
      · next hz => simpa using hz
      · exact absurd (by simpa using h) hne

/-- **Equal values that do not differ in the sign of a zero serialize to the same document** —
every schema, every type, every nesting depth, any exclusion spec and writer scope; map entries
may be enumerated in any order on either side, record fields may have been set in any order. The
document is what every renderer (JSON compact/pretty, ROR2 path/query/header) is a function of. -/
theorem c09_equal_values_encode_identically (c : EncCfg) (hs : c.sortKeys = true) (f : Nat)
    (scope : List Bytes) (ty : Ty) (a b : Value) (d : Doc) (ha : ValOK a) (hb : ValOK b)
    (he : valueEqZ c.env f ty a b = true) (h : encode c f scope ty a = .ok d) :
    encode c f scope ty b = .ok d :=
  encode_congr_of_valueEqZ c hs f scope ty a b d ha hb he h

/-- a document produced at some depth budget of the writer model is produced at every larger one
(the Go writer has no budget; a *failure* at a small budget may turn into a document at a larger one) -/
theorem c09_encoding_independent_of_budget (c : EncCfg) (f g : Nat) (hfg : f ≤ g) (scope : List Bytes)
    (ty : Ty) (v : Value) (d : Doc) (h : encode c f scope ty v = .ok d) :
    encode c g scope ty v = .ok d := by
  induction hfg with
  | refl => exact h
  | step _ ih => exact encode_fuel_step c _ scope ty v d ih

/-- hence any two successful evaluations of the writer on one value agree -/
theorem c09_encoding_unique (c : EncCfg) (f g : Nat) (scope : List Bytes) (ty : Ty) (v : Value)
    (d₁ d₂ : Doc) (h₁ : encode c f scope ty v = .ok d₁) (h₂ : encode c g scope ty v = .ok d₂) :
    d₁ = d₂ := by
  rcases Nat.le_total f g with hfg | hgf
  · have := c09_encoding_independent_of_budget c f g hfg scope ty v d₁ h₁
    rw [h₂] at this; exact (Except.ok.inj this).symm
  · have := c09_encoding_independent_of_budget c g f hgf scope ty v d₂ h₂
    rw [h₁] at this; exact Except.ok.inj this

/-- equality judged at a budget `f` gives the same document at any writer budget `g ≥ f` -/
theorem c09_equal_values_encode_identically_any_fuel (c : EncCfg) (hs : c.sortKeys = true) (f g : Nat)
    (hfg : f ≤ g) (scope : List Bytes) (ty : Ty) (a b : Value) (d : Doc) (ha : ValOK a) (hb : ValOK b)
    (he : valueEqZ c.env f ty a b = true) (h : encode c g scope ty a = .ok d) :
    encode c g scope ty b = .ok d :=
  encode_congr_of_valueEqZ c hs g scope ty a b d ha hb
    (eqStep_fuel_mono (fun _ _ _ => rfl) (valueEqZ_succ c.env) hfg ty a b (mapsOK_of_valOK a ha)
      (mapsOK_of_valOK b hb) he) h

/-- hence byte-identical output, whatever the renderer -/
theorem c09_equal_values_same_bytes {β : Type} (render : Doc → β) (c : EncCfg) (hs : c.sortKeys = true)
    (f : Nat) (scope : List Bytes) (ty : Ty) (a b : Value) (d : Doc) (ha : ValOK a) (hb : ValOK b)
    (he : valueEqZ c.env f ty a b = true) (h : encode c f scope ty a = .ok d) :
    (encode c f scope ty b).toOption.map render = some (render d) := by
  rw [c09_equal_values_encode_identically c hs f scope ty a b d ha hb he h]; rfl

/-- two representations of one value: fields set in another order, map entries enumerated in
another order at two levels -/
def exEnv9 : Env :=
  [("E", .enum [[65], [66]]),
   ("B", .record [] [⟨[120], .prim .f32, false, none⟩]),
   ("R", .record ["B"] [⟨[114], .prim .i32, false, none⟩, ⟨[111], .prim .str, true, none⟩,
        ⟨[109], .map (.map (.prim .f64)), false, none⟩, ⟨[101], .ref "E", false, none⟩])]
def exA9 : Value :=
  .record [([120], .f32 0x80000000), ([114], .i32 (-5)),
    ([109], .map [([122], .map [([97], .f64 0), ([98], .f64 1)]), ([], .map [])]), ([101], .enum 2)]
def exB9 : Value :=
  .record [([101], .enum 2), ([114], .i32 (-5)), ([120], .f32 0x80000000),
    ([109], .map [([], .map []), ([122], .map [([98], .f64 1), ([97], .f64 0)])])]
example : valueEqZ exEnv9 5 (.ref "R") exA9 exB9 = true := by decide
example : ValOK exA9 ∧ ValOK exB9 := by
  simp [exA9, exB9, ValOK, ValOKKvs, KeysNodup]
example : ∃ d, encode ⟨exEnv9, .empty, true⟩ 5 [] (.ref "R") exA9 = .ok d ∧
    encode ⟨exEnv9, .empty, true⟩ 5 [] (.ref "R") exB9 = .ok d := ⟨_, rfl, rfl⟩
/-- a zero of the other sign is Equal but not `valueEqZ`, and is written differently -/
example : valueEq exEnv9 2 (.prim .f64) (.f64 0) (.f64 0x8000000000000000) = true ∧
    valueEqZ exEnv9 2 (.prim .f64) (.f64 0) (.f64 0x8000000000000000) = false := by decide

end Restli.Codec
