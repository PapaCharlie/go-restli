import Restli.Proofs.ErrorFlow
/-! # C08 — error and status propagation from resource code to the calling client

The property theorems and the propositions `Delivered`, `otherFailure`, `BecomesErrorResponse` they are
stated with (`failure`, `protocolDefault`, `TiedErr`: `Proofs/ErrorFlow.lean`). The model is `Model/ErrorFlow.lean` (the `Register*` wrappers, the closures
of `registerMethod` / `registerFinder` / `registerAction`, the deferred `recover` of `receive`, the
tail of `ServeHTTP`, `IsErrorResponse`). All statements are for every `Register*` kind, every
outcome of the implementation and every `http.StatusText`; `C` ranges over the constants of either
module generation and `TiedErr C` says they are what the property demands.

No statement carries a guard: an empty `*ErrorResponse` is answered with a 500 (finding F8a of DESIGN.md,
fixed in /repo), the message is defaulted in a copy of the resource's error object (F8b), a nil result
without an error is a 500 for every method kind (F9).

Not modelled (said here rather than guessed): per-key errors inside batch responses (C16 owns the
key correlation; the envelope is the codec's), concurrent sharing of error objects (C17). -/
namespace Restli.ErrorFlow
open Restli.Routing

/-- The v2 constants (statuses in `ServeHTTP`, `receive`, the closures and the `Register*` wrappers,
regenerated from source) are what the property demands. -/
theorem c08_constants_tied_v2 : TiedErr constsV2 := tiedErr_both.1

/-- The same for the root module. -/
theorem c08_constants_tied_root : TiedErr constsRoot := tiedErr_both.2

/-- what "delivered faithfully" means for error response `e` returned through kind `k`: the HTTP
status is `e`'s (500 when unset), the error header is set, the body is `e` (with the message filled
in when it was unset), and the client's `*restli.Error` carries it with the status filled in -/
def Delivered (C : Consts) (statusText : Nat → String) (k : Kind) (e : ErrResp) : Prop :=
  ∃ e', (serveOutcome C statusText k (.errResp e)).1 = .response (e.status.getD 500) true (.error e') ∧
    e'.status = e.status ∧ e'.rest = e.rest ∧ (e.message.isSome → e'.message = e.message) ∧
    clientView (serveOutcome C statusText k (.errResp e)).1 = .restliError { e' with status := some (e.status.getD 500) }

/-- Every error response — with or without a status, with or without a message — is delivered to
the client as a `*restli.Error` carrying the same status (500 when unset), message and remaining
fields, over an HTTP response with that status and the error header. -/
theorem c08_error_response_delivered (C : Consts) (hC : TiedErr C) (statusText : Nat → String)
    (k : Kind) (e : ErrResp) : Delivered C statusText k e := by
  obtain ⟨st, msg, rest⟩ := e
  cases st <;> cases msg <;>
    simp_all [Delivered, serveOutcome, receiveImpl, respondTail, clientView, hC.nilStatus]

/-- "any other error, a panic, or a missing (nil) entity returned without an error" -/
def otherFailure (k : Kind) : ImplOutcome → Option String
  | .otherErr msg => some msg
  | .panic msg => some msg
  | .typedNil =>
    match k.shape with
    | .derefInWrapper => some "nil pointer dereference"
    | .marshalledBody => some "nil result"
    | _ => none
  | _ => none

/-- the request is answered with a well-formed error response: failure status, error header, a
message, and the client sees a `*restli.Error` with that status -/
def BecomesErrorResponse (C : Consts) (statusText : Nat → String) (k : Kind) (o : ImplOutcome) (msg : String) : Prop :=
  ∃ st rest, failure st = true ∧
    (serveOutcome C statusText k o).1 = .response st true (.error ⟨some st, some msg, rest⟩) ∧
    clientView (serveOutcome C statusText k o).1 = .restliError ⟨some st, some msg, rest⟩

/-- An ordinary error, a panic and a nil result returned without an error — for every method kind
that has a result — are answered with an error response carrying a failure status and a message. -/
theorem c08_other_outcomes_become_error_responses (C : Consts) (hC : TiedErr C) (statusText : Nat → String)
    (k : Kind) (o : ImplOutcome) (msg : String) (ho : otherFailure k o = some msg) :
    BecomesErrorResponse C statusText k o msg := by
  have h500 : failure C.recoverStatus = true := by rw [hC.recover]; decide
  -- the model computes the response in each case; what the constants must supply is the failure status
  unfold BecomesErrorResponse serveOutcome
  cases o with
  | otherErr m => cases ho; exact ⟨_, _, hC.wrap k, rfl, rfl⟩
  | panic m => cases ho; exact ⟨_, _, h500, rfl, rfl⟩
  | typedNil =>
    rw [receiveImpl]
    cases hsh : k.shape <;> simp [otherFailure, hsh] at ho
    · subst ho; exact ⟨_, _, h500, rfl, rfl⟩
    · subst ho; exact ⟨_, _, hC.nilResult k, rfl, rfl⟩
  | value => cases ho
  | errResp e => cases ho
  | statusOverride n => cases ho

/-- "Never a crashed connection": in the model the tail of `ServeHTTP` writes a response in each of its
branches, whatever `receive` hands it. -/
theorem c08_connection_never_dropped (C : Consts) (statusText : Nat → String) (k : Kind) (o : ImplOutcome) :
    (serveOutcome C statusText k o).1 ≠ .connectionDropped := by
  -- the tail of `ServeHTTP` writes a response whatever `receive` returned
  unfold serveOutcome
  cases receiveImpl C k o with
  | ok b s => cases b <;> simp [respondTail]
  | err e => simp [respondTail]

/-- Whatever goes wrong, the client is never told that the call succeeded: an error response, an
ordinary error or a panic never reach the client as a 2xx result. -/
theorem c08_failure_never_looks_like_success (C : Consts) (statusText : Nat → String) (k : Kind)
    (o : ImplOutcome) (ho : (∃ e, o = .errResp e ∧ (∀ st, e.status = some st → failure st = true)) ∨
      (∃ m, o = .otherErr m) ∨ (∃ m, o = .panic m)) :
    ∀ st, clientView (serveOutcome C statusText k o).1 ≠ .ok st := by
  -- in each of the three cases `receive` returns an error, and the tail answers an error with the error header
  obtain ⟨⟨⟨s, m, r⟩, own⟩, h⟩ : ∃ ev, receiveImpl C k o = .err ev := by
    rcases ho with ⟨e, rfl, _⟩ | ⟨m, rfl⟩ | ⟨m, rfl⟩ <;> exact ⟨_, rfl⟩
  intro st
  unfold serveOutcome
  rw [h]
  cases m <;> simp [respondTail, clientView]

/-- Error objects returned by resource code are not modified: the modelled tail of `ServeHTTP`
defaults the message in a copy, and the resource's own object after the call is the one it returned.
(That the Go code writes to a copy too is what the correspondence run checks.) -/
theorem c08_error_object_unchanged (C : Consts) (statusText : Nat → String) (k : Kind) (e : ErrResp) :
    (serveOutcome C statusText k (.errResp e)).2 = some e := by
  simp [serveOutcome, receiveImpl, respondTail]

/-- A successful call never carries the error header and uses the protocol's default status for the
method: 200, 201 for create, 204 for update, delete and partial update. -/
theorem c08_success_statuses (C : Consts) (hC : TiedErr C) (statusText : Nat → String) (k : Kind) :
    ∃ body, (serveOutcome C statusText k .value).1 = .response (protocolDefault k) false body ∧
      clientView (serveOutcome C statusText k .value).1 = .ok (protocolDefault k) := by
  obtain ⟨b, hb⟩ := receiveImpl_value C k
  have h2 : protocolDefault k / 100 = 2 := by cases k <;> rfl
  cases b <;> simp [serveOutcome, hb, respondTail, clientView, hC.preset k, h2]

/-- …unless the implementation overrides it: then the status is the one it chose. -/
theorem c08_success_status_override (C : Consts) (statusText : Nat → String) (k : Kind) (n : Nat) (hn : n ≠ 0) :
    ∃ body, (serveOutcome C statusText k (.statusOverride n)).1 = .response n false body := by
  obtain ⟨b, hb⟩ := receiveImpl_override C k n hn
  cases b <;> simp [serveOutcome, hb, respondTail]

example : Delivered constsV2 (fun _ => "Not Found") .get ⟨some 404, none, 3⟩ :=
  c08_error_response_delivered constsV2 c08_constants_tied_v2 _ .get _
/-- (F8a) `&ErrorResponse{}` is a 500 with the default message -/
example : (serveOutcome constsV2 (fun _ => "Internal Server Error") .get (.errResp ⟨none, none, 0⟩)).1 =
    .response 500 true (.error ⟨none, some "Internal Server Error", 0⟩) := by decide +kernel
/-- (F8b) the resource's object keeps its missing message -/
example : (serveOutcome constsV2 (fun _ => "Not Found") .get (.errResp ⟨some 404, none, 0⟩)).2 = some ⟨some 404, none, 0⟩ := by decide +kernel
/-- (F9) `get` returning `(nil, nil)` is a 500 -/
example : (serveOutcome constsV2 (fun _ => "") .get .typedNil).1 =
    .response 500 true (.error ⟨some 500, some "nil result", 0⟩) := by decide +kernel
example : (serveOutcome constsV2 (fun _ => "Not Found") .get (.errResp ⟨some 404, none, 3⟩)).1 =
    .response 404 true (.error ⟨some 404, some "Not Found", 3⟩) := by decide +kernel
example : (serveOutcome constsV2 (fun _ => "") .action (.otherErr "boom")).1 =
    .response 400 true (.error ⟨some 400, some "boom", 0⟩) := by decide +kernel
example : (serveOutcome constsV2 (fun _ => "") .finder (.otherErr "boom")).1 =
    .response 500 true (.error ⟨some 500, some "boom", 0⟩) := by decide +kernel
example : (serveOutcome constsV2 (fun _ => "") .create .typedNil).1 =
    .response 500 true (.error ⟨some 500, some "nil pointer dereference", 0⟩) := by decide +kernel
example : (serveOutcome constsRoot (fun _ => "") .create .value).1 = .response 201 false .empty := by decide +kernel
example : clientView (serveOutcome constsV2 (fun _ => "") .batchGet .typedNil).1 = .restliError ⟨some 500, some "nil result", 0⟩ := by decide +kernel

end Restli.ErrorFlow
