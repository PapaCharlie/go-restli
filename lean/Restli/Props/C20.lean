import Restli.Proofs.CleanDir
/-! # C20 — regeneration never touches files the generator does not own

The model is `Model/CleanDir.lean` (`CleanTargetDir` as written); the specification is
`Spec/CleanDir.lean`. All statements are for every tree — no bound on depth or fan-out.

Symbolic links. Trees contain regular files, directories and symbolic links; a link is a
non-directory entry (`Node.file n (.link dest)`, which is what `os.ReadDir` reports it as) and a
"file" below (`FileAt`, `files`) means a non-directory entry of either sort, its `content` being the
content id or the link's destination text, so every theorem speaks of links too. That the model
never reads a destination, and hands the directory beside the target back as it got it, are
modelling decisions (`c20_links_not_followed` and `c20_outside_untouched` state them, they do not
establish them); that the real function behaves like this model on real symbolic links — into the
target, out of it, to an ancestor, to a file, dangling — is what the correspondence run checks on
every case, comparing the outside directory too. Not covered: a target path that is itself a
symbolic link. -/
namespace Restli.CleanDir

/-- Every file or symbolic link that is not owned by the generator (by its name) is still there,
at the same path and with the same content or destination, after cleaning — whatever the tree, whether or not the target is ".", and
**also when the cleaner stops with an error**. -/
theorem c20_foreign_files_untouched (O : Own) (dot : Bool) (t : Node) (f : FileAt)
    (hf : f ∈ files t) (ho : owned O f.name = false) :
    f ∈ filesO (clean O dot (some t)).node := by
  cases t with
  | file n c => exact hf
  | dir n cs =>
    exact (foreign_cleanOuter_dir_sublist dot n (foreign_cleanChildren_sublist O cs)).subset
      (List.mem_filter.2 ⟨hf, by rw [ho]; rfl⟩)

/-- Cleaning never creates, moves or re-points anything: every file or link present afterwards was
there before, at the same path, with the same content or destination. -/
theorem c20_nothing_created (O : Own) (dot : Bool) (t : Node) (f : FileAt)
    (hf : f ∈ filesO (clean O dot (some t)).node) : f ∈ files t := by
  cases t with
  | file n c => exact hf
  | dir n cs =>
    exact (filesO_cleanOuter_dir_sublist dot n (filesL_cleanChildren_sublist O cs)).subset hf

/-- Unless a directory named like the manifest is non-empty (the one error the code can
raise on a well-behaved filesystem), cleaning succeeds and equals the set-style pruning of the
property text: delete owned files, then delete directories left empty. -/
theorem c20_clean_eq_prune (O : Own) (dot : Bool) (n : Name) (cs : List Node)
    (hb : noBlock O (.dir n cs) = true) :
    clean O dot (some (.dir n cs)) = ⟨pruneRoot O dot (.dir n cs), false⟩ := by
  rw [noBlock_dir] at hb
  exact cleanOuter_of_children dot n hb.1 (cleanChildren_eq_pruneL hb.2 hb.1)

/-- After a successful clean no owned file is left anywhere (a link with an owned name counts:
it is unlinked, whatever it points to). -/
theorem c20_owned_files_removed (O : Own) (dot : Bool) (n : Name) (cs : List Node)
    (hb : noBlock O (.dir n cs) = true) :
    ∀ f ∈ filesO (clean O dot (some (.dir n cs))).node, owned O f.name = false := by
  rw [c20_clean_eq_prune O dot n cs hb, filesO_pruneRoot]
  exact fun f hf => by simpa using (List.mem_filter.1 hf).2

/-- What the specification's `prune` leaves of a tree, if anything, contains a file or a link
somewhere: pruning does not leave an empty directory at the top. (For the directories further down
this is `pruneL_has_file`; the tie to `clean` is `c20_clean_eq_prune`.) -/
theorem c20_no_empty_dirs_left (O : Own) (t t' : Node) (h : prune O t = some t') : files t' ≠ [] :=
  by simpa [pruneL, filesL, h] using pruneL_has_file O [t]

/-- Cleaning is idempotent: cleaning the result again changes nothing and succeeds. -/
theorem c20_idempotent (O : Own) (dot : Bool) (n : Name) (cs : List Node)
    (hb : noBlock O (.dir n cs) = true) :
    clean O dot (clean O dot (some (.dir n cs))).node = clean O dot (some (.dir n cs)) := by
  rw [c20_clean_eq_prune O dot n cs hb, pruneRoot]
  split
  · rfl
  · next hne =>
    rw [noBlock_dir] at hb
    rw [c20_clean_eq_prune O dot n (pruneL O cs) ((noBlock_dir O n _).2
      ⟨manifestBlocked_pruneL hb.1, noBlockL_pruneL O cs hb.2⟩), pruneRoot, pruneL_idem, if_neg hne]

/-- A target that does not exist is a successful no-op. -/
theorem c20_missing_target_ok (O : Own) (dot : Bool) : clean O dot none = ⟨none, false⟩ := rfl

/-- The current directory itself is never removed, even if everything in it is. -/
theorem c20_dot_survives (O : Own) (n : Name) (cs : List Node) :
    (clean O true (some (.dir n cs))).node ≠ none := by
  rw [clean, cleanOuter_dir, Bool.not_true, Bool.and_false]
  cases manifestBlocked O cs <;> cases (cleanChildren O cs).2 <;> exact Option.some_ne_none _

/-- A symbolic link whose name the generator does not own survives cleaning where it was, still
pointing where it pointed — also when the cleaner stops with an error, and whatever the link
points to (instance of `c20_foreign_files_untouched`). -/
theorem c20_foreign_links_kept (O : Own) (dot : Bool) (t : Node) (dirs : List Name) (n : Name)
    (dest : String) (hf : (⟨dirs, n, .link dest⟩ : FileAt) ∈ files t) (ho : owned O n = false) :
    (⟨dirs, n, .link dest⟩ : FileAt) ∈ filesO (clean O dot (some t)).node :=
  c20_foreign_files_untouched O dot t _ hf ho

/-- The model's outcome does not depend on where the links of the tree point: re-pointing every
link by an arbitrary `g` (to a directory full of generated files, to an ancestor, to nothing) and
cleaning gives the cleaned tree with its surviving links re-pointed the same way, and the same
error flag. This holds because no operation of the model reads a destination; that the Go function
follows no link either is the modelling assumption the correspondence run tests. -/
theorem c20_links_not_followed (O : Own) (dot : Bool) (g : String → String) (t : Node) :
    clean O dot (some (retarget g t)) =
      ⟨(clean O dot (some t)).node.map (retarget g), (clean O dot (some t)).err⟩ := by
  cases t with
  | file n l => rfl
  | dir n cs => exact cleanOuter_retarget_dir dot n (cleanChildren_retarget O g cs)

/-- `cleanWorld` passes what lies beside the target — the directory links inside the target may
point to — through unchanged. True by the definition of `cleanWorld`, for any `clean`: it records
the modelling decision, and the correspondence run compares that directory on every case. -/
theorem c20_outside_untouched (O : Own) (dot : Bool) (w : World) :
    (cleanWorld O dot w).outside = w.outside := rfl

/-! Non-vacuity: a tree with generated files, a manifest, user files and nested empty
directories satisfies the hypotheses and is changed by cleaning; and the error case. -/
def sample : Node :=
  .dir "out" [.file "go-restli-manifest.gr.json" 1, .file "custom.go" 2,
    .dir "a" [.file "x.gr.go" 3, .dir "b" [.file "y.gr.go" 4]],
    .dir "c" [.file "keep.txt" 5, .file "z.gr.go" 6]]

example : noBlock ownV2 sample = true := by decide +kernel
example : (clean ownV2 false (some sample)).node =
    some (.dir "out" [.file "custom.go" 2, .dir "c" [.file "keep.txt" 5]]) := by decide +kernel
example : (clean ownV2 false (some sample)).err = false := by decide +kernel

/-- the error case is reachable, and the foreign file next to it survives -/
def blocked : Node :=
  .dir "out" [.dir "a" [.dir "go-restli-manifest.gr.json" [.file "u.txt" 1]], .file "b.gr.go" 2]
example : noBlock ownV2 blocked = false := by decide +kernel
example : (clean ownV2 false (some blocked)).err = true := by decide +kernel
example : (⟨["out", "a", "go-restli-manifest.gr.json"], "u.txt", 1⟩ : FileAt)
    ∈ filesO (clean ownV2 false (some blocked)).node := by decide +kernel

/-- links: to a directory of generated files outside (kept, not followed), one with a generated
name (unlinked), one named like the manifest pointing to a non-empty directory (unlinked, no
error), a dangling one, and a directory that holds nothing but a foreign link (kept) -/
def linked : Node :=
  .dir "out" [.file "go-restli-manifest.gr.json" (.link "outside/gen"), .file "x.gr.go" (.link "outside/gen"),
    .file "othergen" (.link "outside/gen"), .file "gone" (.link "nowhere"), .file "a.gr.go" 1,
    .dir "pkg" [.file "onlygen" (.link "outside/onlygen"), .file "Foo.gr.go" 2],
    .dir "up" [.file "loop.gr.go" (.link "..")]]
example : noBlock ownV2 linked = true := by decide +kernel
example : clean ownV2 false (some linked) =
    ⟨some (.dir "out" [.file "othergen" (.link "outside/gen"), .file "gone" (.link "nowhere"),
      .dir "pkg" [.file "onlygen" (.link "outside/onlygen")]]), false⟩ := by decide +kernel
example : (⟨["out", "pkg"], "onlygen", .link "outside/onlygen"⟩ : FileAt) ∈ files linked := by decide +kernel
example : owned ownV2 "onlygen" = false := by decide +kernel
example : (clean ownV2 false (some (retarget (fun _ => "elsewhere") linked))).node =
    some (.dir "out" [.file "othergen" (.link "elsewhere"), .file "gone" (.link "elsewhere"),
      .dir "pkg" [.file "onlygen" (.link "elsewhere")]]) := by decide +kernel
example : (cleanWorld ownV2 false ⟨some linked, some (.dir "outside" [.dir "gen" [.file "Bar.gr.go" 7]])⟩).outside
    = some (.dir "outside" [.dir "gen" [.file "Bar.gr.go" 7]]) := rfl

/-- with the root module's names (`ownRoot`) its manifest `parsed-specs.gr.json` goes, and a file named
like the v2 manifest is foreign -/
example : (clean ownRoot false (some (.dir "out" [.file "parsed-specs.gr.json" 1, .file "a.gr.go" 2,
    .file "go-restli-manifest.gr.json" 3]))).node
    = some (.dir "out" [.file "go-restli-manifest.gr.json" 3]) := by decide +kernel

end Restli.CleanDir
