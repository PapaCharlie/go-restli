import Restli.Proofs.Exclusion
import Restli.Proofs.TreeReaderEqns
import Restli.Proofs.Patch
import Restli.Proofs.PathSpecSem
/-! # C07 — read-only / create-only field exclusion (codec level)

Writer: `WriteMap` consults the exclusion spec once per key, under the scope extended by that
key, and drops the entry with its whole subtree. Reader: `enterMapScope` consults it once per
key it is about to read and fails the whole decode. Both go through `gmatches`
(= `genericMatches`). The wire-level clauses (which spec and leading scope each generated method
passes) belong to the end-to-end model.

Known deviations of the current code, each with a witness below and in the harness: a
directive whose last segment stands for *array items* is never enforced (items are not checked,
only keys), a map key that is literally `$set`/`$delete` is skipped by the matcher, and an
excluded field literally named `patch` empties every partial update of its entity. -/
namespace Restli.Codec

/-- the writer emits exactly the non-excluded keys, in visiting order: nothing else is dropped,
nothing excluded is kept (one object level; nested objects are encoded by the same function) -/
theorem c07_writer_keeps_exactly_nonexcluded (excluded : Bytes → Bool)
    (enc : Bytes → Value → Except EncErr Doc) :
    ∀ (l : List (Bytes × Value)) r, encodeKeyed excluded enc l = .ok r →
      r.map (·.1) = (l.map (·.1)).filter (fun k => !excluded k) := by
  intro l
  induction l with
  | nil => intro r h; cases h; rfl
  | cons x xs ih =>
    obtain ⟨k, v⟩ := x
    exact emitted_keys_cons (enc k v) (encodeKeyed excluded enc xs) ih

/-- the same for record fields and union members (typed entries) -/
theorem c07_writer_keeps_exactly_nonexcluded_fields (excluded : Bytes → Bool)
    (enc : Bytes → Ty → Value → Except EncErr Doc) :
    ∀ (l : List (Bytes × Ty × Value)) r, encodeTyped excluded enc l = .ok r →
      r.map (·.1) = (l.map (·.1)).filter (fun k => !excluded k) := by
  intro l
  induction l with
  | nil => intro r h; cases h; rfl
  | cons x xs ih =>
    obtain ⟨k, t, v⟩ := x
    exact emitted_keys_cons (enc k t v) (encodeTyped excluded enc xs) ih

/-- reader: a key whose path matches the spec makes the tree reader (any leaf semantics, JSON among
them) fail with the excluded-field error before the value is looked at, whatever follows in the
document -/
theorem c07_reader_rejects_excluded_key (c : TCfg) (scope : List Seg) (mode : MapMode)
    (acc : List (Bytes × Value)) (seen : List Bytes) (k : Bytes) (v : Json.JVal)
    (rest : List (Bytes × Json.JVal)) (hv : v ≠ .null) (hkey : c.sem.key k = some k)
    (hx : c.tracker.check (scope ++ [.key k]) = .yes) :
    treeReadEntries c scope mode acc seen ((k, v) :: rest) = .err (.excluded (scopeString (scope ++ [.key k]))) := by
  rw [treeReadEntries_cons c scope mode acc seen k v rest hv]
  simp only [hkey, hx]

/-- reader: everything a record adds to the missing list is a required field that was not seen
**and is not excluded** (under the current scope prefix): excluded required fields are never
reported missing. That nothing else is left out is `c06_reports_exactly_unseen_required`. -/
theorem c07_excluded_required_not_reported (tr : Tracker) (scope : List Seg) (fields : List Field)
    (seen m₀ : List Bytes) :
    ∃ reported : List Bytes, missingAfter tr scope fields seen m₀ =
        m₀ ++ reported.map ((let sc := scopeString scope; if sc.isEmpty then sc else sc ++ [46]) ++ ·) ∧
      ∀ r ∈ reported, tr.check (scope ++ [.key r]) ≠ .yes ∧ r ∈ remainingRequired fields seen := by
  refine ⟨_, missingAfter_eq, ?_⟩
  intro r hr
  simp only [List.mem_filter, bne_iff_ne, ne_eq] at hr
  exact ⟨hr.2, hr.1⟩

/-! ## deviations, with witnesses (replayed on the real code by the harness) -/

/-- the matcher's half of the array-item deviation: for a directive `a/*` it says yes on an item's
path `a`,`*` and no on the path `a` of the field itself. The readers ask only for keys
(`enterArrayScope` does not consult the spec), so only the second question is ever put. -/
theorem c07_array_item_directive_not_enforced_cex :
    let spec := newPathSpec [[97, 47, 42]]          -- "a/*"
    -- the matcher itself would say yes for the item path …
    gmatches spec [[97], [42]] = .yes ∧
    -- … but the field `a` (an array) is entered as a key: path `a` alone does not match
    gmatches spec [[97]] = .no := by
  decide +kernel

/-- a map key literally named `$delete` is skipped by the matcher: the directive `m/$delete`
does not match the path `m`,`$delete` -/
theorem c07_patch_operator_key_cex :
    gmatches (newPathSpec [[109, 47, 36, 100, 101, 108, 101, 116, 101]]) [[109], [36, 100, 101, 108, 101, 116, 101]] = .no := by
  decide +kernel

/-- non-vacuity: an ordinary directive does match, at any depth and through wildcards -/
example : gmatches (newPathSpec [[97, 47, 42, 47, 98]]) [[97], [42], [98]] = .yes := by decide +kernel
example : gmatches (newPathSpec [[97, 47, 42, 47, 98]]) [[97], [107], [98], [99]] = .yes := by decide +kernel
example : gmatches (newPathSpec [[97, 47, 42, 47, 98]]) [[97], [107], [99]] = .no := by decide +kernel
/-- a directive that is a prefix of another is kept, in whichever order the two are given -/
example : gmatches (newPathSpec [[97], [97, 47, 98]]) [[97]] = .yes := by decide +kernel
example : gmatches (newPathSpec [[97, 47, 98], [97]]) [[97]] = .yes := by decide +kernel

/-- **`NewPathSpec(directives…)` + `genericMatches` decide exactly prefix matching**: for every list
of directives (any bytes, any number of segments, nested prefixes and duplicates in any order —
the trie's subsumption rules are invisible) and every non-empty path, the path is excluded iff
some directive matches a prefix of it segment by segment, `*` standing for any one segment, one
leading `$set`/`$delete` of the remaining path being passed over at each step -/
theorem c07_pathspec_is_prefix_match (dirs : List Bytes) (path : List Bytes) (hp : path ≠ []) :
    (newPathSpec dirs).matchesB path = true ↔ ∃ d ∈ dirs, dirMatches (splitSlash d) path = true :=
  (fold_insert_sem dirs path .empty).trans (or_iff_right (ne_true_of_eq_false (matchesB_empty path)))

/-- for paths that contain no `$set`/`$delete` segment this is plain prefix matching with
wildcards — the property's definition -/
theorem c07_pathspec_plain_paths (dirs : List Bytes) (path : List Bytes) (hp : path ≠ [])
    (hno : ∀ x ∈ path, isOp x = false) :
    (newPathSpec dirs).matchesB path = true ↔ ∃ d ∈ dirs, prefixMatches (splitSlash d) path = true := by
  simp only [c07_pathspec_is_prefix_match dirs path hp, dirMatches_plain _ path hno]

/-- **client side**: a partial update that deletes, sets or patches a field (own or inherited, at
the top or inside any nested patch scope) which the writer's exclusion spec matches is never
emitted by `MarshalRestLiPatch`: the call fails before anything is written -/
theorem c07_pu_touching_excluded_refused (c : EncCfg) (fuel : Nat) (scope : List Bytes) (n : TName) (pu : PU)
    (f : Field) (hf : f ∈ allFields c.env (includeFuel c.env) n) (ht : pu.touches c.env f = true)
    (hx : c.excl.matchesB (scope ++ [f.name]) = true) : ∀ d, marshalPatch c fuel scope n pu ≠ .ok d := by
  intro d h
  have := (fieldLegal_touched (marshalPatch_ok_legal h f hf) ht).1
  rw [hx] at this
  cases this

/-- **server side**: `UnmarshalRestLiPatch` never returns a partial update that touches a field the
reader's exclusion spec matches (with the leading `patch` scope ignored, the path is relative to
the entity) -/
theorem c07_pu_reader_rejects_excluded (c : TCfg) (fuel : Nat) (scope : List Seg) (n : TName) (pu₀ pu : PU)
    (t : Json.JVal) (m : List Bytes) (h : unmarshalPatch c fuel scope n pu₀ t = .ok pu m)
    (f : Field) (hf : f ∈ allFields c.env (includeFuel c.env) n) (ht : pu.touches c.env f = true) :
    c.tracker.check (scope ++ [.key f.name]) ≠ .yes := by
  have := (fieldLegal_touched (unmarshalPatch_ok_legal h f hf) ht).1
  simpa using this

/-- deviation (known finding): when the entity itself has an excluded field that is literally
named `patch`, the envelope key is looked up in the exclusion spec, matches, and every partial
update of that entity — whatever it touches — is serialised as `{}` without an error -/
theorem c07_field_named_patch_cex :
    marshalPU { env := [("R", .record [] [⟨patchKey, .prim .str, true, none⟩, ⟨[120], .prim .i32, true, none⟩])],
                excl := newPathSpec [patchKey], sortKeys := true } 5 "R" (.mk [] [([120], .i32 1)] [])
      = .ok (.obj []) := by rfl

end Restli.Codec
