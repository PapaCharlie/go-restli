import Restli.Proofs.Escape
import Restli.Proofs.Ror2RoundTrip
import Restli.Proofs.JsonRoundTrip
import Restli.Proofs.JsonDoc
import Restli.Proofs.JsonPretty
import Restli.Proofs.QueryParams
/-! # C01 — codec round trip (property theorems)

The three ROR2 string flavours, for **every byte string**, against the regenerated
character tables of both module generations: what the writer's escaper emits is decoded back to
the original bytes by the reader's unescaper, contains none of the ROR2 structural bytes
`( ) , : '`, and is non-empty for a non-empty input (so it can never be confused with the
empty-string marker `''` or with an absent value). -/
namespace Restli.Escape

/-- the tables currently in `/repo` (both modules) satisfy them — re-decided on every run -/
theorem c01_tables_ok_v2 : TablesOk tablesV2 := by decide +kernel
theorem c01_tables_ok_root : TablesOk tablesRoot := by decide +kernel

/-- URL-path flavour: `url.PathUnescape (Ror2PathEscape s) = s` for every byte string -/
theorem c01_path_escape_roundtrip (t : Tables) (h : TablesOk t) (b : Bytes) :
    unescape false (escapeWith t.pathSafe b) = some b :=
  unescape_escapeWith _ false h.1 (by intro h'; cases h') b

/-- query-string flavour: `url.QueryUnescape (Ror2QueryEscape s) = s` for every byte string
(in particular '+' and ' ' survive) -/
theorem c01_query_escape_roundtrip (t : Tables) (h : TablesOk t) (b : Bytes) :
    unescape true (escapeWith t.querySafe b) = some b :=
  unescape_escapeWith _ true h.2.1 (fun _ => h.2.2.1) b

/-- header flavour: `url.PathUnescape (headerEncodingEscaper s) = s` for every byte string -/
theorem c01_header_escape_roundtrip (t : Tables) (h : TablesOk t) (b : Bytes) :
    unescape false (replaceWith t.headerEscapes b) = some b :=
  unescape_replaceWith _ h.2.2.2.2.2.1 h.2.2.2.2.2.2.1 b

/-- no escaped string contains a ROR2 structural byte, in any flavour -/
theorem c01_escaped_is_clean (t : Tables) (h : TablesOk t) (b : Bytes) :
    (∀ c ∈ escapeWith t.pathSafe b, c ∉ reserved) ∧ (∀ c ∈ escapeWith t.querySafe b, c ∉ reserved) ∧
    (∀ c ∈ replaceWith t.headerEscapes b, c ∉ reserved) :=
  ⟨escapeWith_clean _ h.2.2.2.1 b, escapeWith_clean _ h.2.2.2.2.1 b,
   replaceWith_clean _ h.2.2.2.2.2.2.2.1 h.2.2.2.2.2.2.2.2.1 b⟩

/-- a non-empty string never escapes to the empty string -/
theorem c01_escaped_nonempty (t : Tables) (h : TablesOk t) (b : Bytes) (hb : b ≠ []) :
    escapeWith t.pathSafe b ≠ [] ∧ escapeWith t.querySafe b ≠ [] ∧ replaceWith t.headerEscapes b ≠ [] :=
  ⟨escapeWith_ne_nil _ b hb, escapeWith_ne_nil _ b hb, replaceWith_ne_nil _ h.2.2.2.2.2.2.2.2.2 b hb⟩

/-! non-vacuity: the hypotheses hold for the real tables, on a string full of metacharacters -/
example : unescape true (escapeWith tablesV2.querySafe (strBytes "a+b (c):'d',%41 é")) = some (strBytes "a+b (c):'d',%41 é") :=
  c01_query_escape_roundtrip tablesV2 c01_tables_ok_v2 _

end Restli.Escape

/-! **Whole values, byte level** (ROR2, all three flavours, v2 writer with key sorting).
For every schema environment whose declarations have distinct enum symbols, field names (after
include flattening) and union aliases, every type, every value a Go variable of the generated type
can hold (`ValOK`: integers in range, float bit patterns in range, distinct map keys), at every
nesting depth: what the generated `UnmarshalRestLi` — the cursor reader of `ror2_reader.go`,
index arithmetic, scope tracking, required-field accounting and all — returns on the bytes the
generated `MarshalRestLi` wrote is the original value with the record's own defaults filled in,
entries in ascending key order and NaN canonical (`norm`); the whole input is consumed and no
required field is reported missing.

Hypotheses (never axioms): the regenerated escape tables satisfy `TablesOk` (decided above for the
tables in /repo), and `FloatLaws`: `strconv`'s shortest float formatting parses back to the same
bits. The latter is a statement about third-party code, modelled in Lib/Strconv.lean and compared
with Go's strconv on every float of every run; it is not proved. -/
namespace Restli.Codec
open Restli.Escape

theorem escLaws_path (t : Tables) (h : TablesOk t) : EscLaws (escapeWith t.pathSafe) false :=
  ⟨c01_path_escape_roundtrip t h, fun b => (c01_escaped_is_clean t h b).1, fun b hb => (c01_escaped_nonempty t h b hb).1⟩
theorem escLaws_query (t : Tables) (h : TablesOk t) : EscLaws (escapeWith t.querySafe) true :=
  ⟨c01_query_escape_roundtrip t h, fun b => (c01_escaped_is_clean t h b).2.1, fun b hb => (c01_escaped_nonempty t h b hb).2.1⟩
theorem escLaws_header (t : Tables) (h : TablesOk t) : EscLaws (replaceWith t.headerEscapes) false :=
  ⟨c01_header_escape_roundtrip t h, fun b => (c01_escaped_is_clean t h b).2.2, fun b hb => (c01_escaped_nonempty t h b hb).2.2⟩

/-- the writer configuration of the theorems below: nothing excluded, v2 key sorting -/
def wcfg (env : Env) : EncCfg := { env := env, excl := .empty, sortKeys := true }
/-- the matching reader: nothing excluded, any number of ignored leading scopes -/
def rcfg (env : Env) (plus : Bool) (ign : Nat) : RCfg :=
  { env := env, tracker := { excl := .empty, ignore := ign }, plus := plus, query := false }

/-- URL-path flavour (`Ror2PathEscape` / `url.PathUnescape`) -/
theorem c01_ror2_roundtrip_path (t : Tables) (ht : TablesOk t) (F : FloatLaws) (env : Env)
    (hS : schemaOKb env = true) (ign f : Nat) (ty : Ty) (v : Value) (kvs : List (Bytes × Doc))
    (hv : ValOK v) (henc : encode (wcfg env) f [] ty v = .ok (.obj kvs)) :
    unmarshalRor2 (rcfg env false ign) ty (renderRor2 (escapeWith t.pathSafe) (.obj kvs)) =
      .ok (norm env f ty v) { rest := [], start := false, missing := [] } :=
  ror2_roundtrip_obj env _ false (escLaws_path t ht) F (schemaOK_of_check env hS) ign f ty v kvs hv henc

/-- query-string flavour (`Ror2QueryEscape` / `url.QueryUnescape`) -/
theorem c01_ror2_roundtrip_query (t : Tables) (ht : TablesOk t) (F : FloatLaws) (env : Env)
    (hS : schemaOKb env = true) (ign f : Nat) (ty : Ty) (v : Value) (kvs : List (Bytes × Doc))
    (hv : ValOK v) (henc : encode (wcfg env) f [] ty v = .ok (.obj kvs)) :
    unmarshalRor2 (rcfg env true ign) ty (renderRor2 (escapeWith t.querySafe) (.obj kvs)) =
      .ok (norm env f ty v) { rest := [], start := false, missing := [] } :=
  ror2_roundtrip_obj env _ true (escLaws_query t ht) F (schemaOK_of_check env hS) ign f ty v kvs hv henc

/-- header flavour (`headerEncodingEscaper` / `url.PathUnescape`) -/
theorem c01_ror2_roundtrip_header (t : Tables) (ht : TablesOk t) (F : FloatLaws) (env : Env)
    (hS : schemaOKb env = true) (ign f : Nat) (ty : Ty) (v : Value) (kvs : List (Bytes × Doc))
    (hv : ValOK v) (henc : encode (wcfg env) f [] ty v = .ok (.obj kvs)) :
    unmarshalRor2 (rcfg env false ign) ty (renderRor2 (replaceWith t.headerEscapes) (.obj kvs)) =
      .ok (norm env f ty v) { rest := [], start := false, missing := [] } :=
  ror2_roundtrip_obj env _ false (escLaws_header t ht) F (schemaOK_of_check env hS) ign f ty v kvs hv henc

/-- **values of every type written on their own** — an entity key, the value of a query
parameter, a header — and read from position 0 by the cursor reader under any reader scope, as the
whole-input reader or as a per-parameter query reader: `Unmarshal(Marshal(v)) = norm v`, the whole
input consumed, nothing reported missing. (Query flavour; bare primitives, enums, fixed and arrays
as well as objects.) -/
theorem c01_ror2_roundtrip_any_query (t : Tables) (ht : TablesOk t) (F : FloatLaws) (env : Env)
    (hS : schemaOKb env = true) (ign f : Nat) (perParam : Bool) (scopeW : List Bytes) (scopeR : List Seg)
    (ty : Ty) (v : Value) (doc : Doc) (hv : ValOK v) (henc : encode (wcfg env) f scopeW ty v = .ok doc) :
    readTy (ror2RcQ env true ign perParam) (3 * (renderRor2 (escapeWith t.querySafe) doc).length + 8) scopeR ty
        { rest := renderRor2 (escapeWith t.querySafe) doc, start := true, missing := [] } =
      .ok (norm env f ty v) { rest := [], start := false, missing := [] } :=
  ror2_roundtrip_any env _ true (escLaws_query t ht) F (schemaOK_of_check env hS) ign f perParam scopeW scopeR
    ty v doc _ (by omega) hv henc

/-- the same in the header flavour (`X-RestLi-Id`, `Location`) -/
theorem c01_ror2_roundtrip_any_header (t : Tables) (ht : TablesOk t) (F : FloatLaws) (env : Env)
    (hS : schemaOKb env = true) (ign f : Nat) (scopeW : List Bytes) (scopeR : List Seg)
    (ty : Ty) (v : Value) (doc : Doc) (hv : ValOK v) (henc : encode (wcfg env) f scopeW ty v = .ok doc) :
    readTy (ror2RcQ env false ign false) (3 * (renderRor2 (replaceWith t.headerEscapes) doc).length + 8) scopeR ty
        { rest := renderRor2 (replaceWith t.headerEscapes) doc, start := true, missing := [] } =
      .ok (norm env f ty v) { rest := [], start := false, missing := [] } :=
  ror2_roundtrip_any env _ false (escLaws_header t ht) F (schemaOK_of_check env hS) ign f false scopeW scopeR
    ty v doc _ (by omega) hv henc

/-- and in the path flavour, for what the underlying writer emits (a key that is exactly `.` or
`..` is written `%2E`/`%2E%2E` by the path writer instead — `renderRor2Path` — see C02/C15) -/
theorem c01_ror2_roundtrip_any_path (t : Tables) (ht : TablesOk t) (F : FloatLaws) (env : Env)
    (hS : schemaOKb env = true) (ign f : Nat) (scopeW : List Bytes) (scopeR : List Seg)
    (ty : Ty) (v : Value) (doc : Doc) (hv : ValOK v) (henc : encode (wcfg env) f scopeW ty v = .ok doc) :
    readTy (ror2RcQ env false ign false) (3 * (renderRor2 (escapeWith t.pathSafe) doc).length + 8) scopeR ty
        { rest := renderRor2 (escapeWith t.pathSafe) doc, start := true, missing := [] } =
      .ok (norm env f ty v) { rest := [], start := false, missing := [] } :=
  ror2_roundtrip_any env _ false (escLaws_path t ht) F (schemaOK_of_check env hS) ign f false scopeW scopeR
    ty v doc _ (by omega) hv henc

theorem hexUpper_ne_amp : ∀ n, n < 16 → hexUpper n ≠ 38 := by decide

/-- the query escaper never emits `&` when `&` is not in its table (decided below for /repo's) -/
theorem noAmp_query (t : Tables) (h : t.querySafe.contains 38 = false) : NoAmp (escapeWith t.querySafe) := by
  intro b c hc
  simp only [escapeWith, List.mem_flatMap] at hc
  obtain ⟨x, _, hx⟩ := hc
  simp only [escOne] at hx
  split at hx
  · next hs =>
    simp only [List.mem_singleton] at hx
    subst hx
    intro h38; subst h38
    rw [h] at hs; cases hs
  · intro h38; subst h38
    simp only [pct, List.mem_cons, List.not_mem_nil, or_false] at hx
    have hlt := x.toNat_lt
    rcases hx with hx | hx | hx
    · exact absurd hx (by decide)
    · exact hexUpper_ne_amp _ (by omega) hx.symm
    · exact hexUpper_ne_amp _ (by omega) hx.symm

theorem c01_query_table_escapes_amp : tablesV2.querySafe.contains 38 = false ∧ tablesRoot.querySafe.contains 38 = false := by
  decide +kernel

/-- **query parameters round trip** (`BuildQueryParams` → `ParseQueryParams` + generated
`DecodeQueryParams`): for every schema and every record of parameters — of every type — whose field
names contain neither `&` nor `=`, the query string the client builds is read back by the server to
the same record (normalised), every parameter consumed entirely, nothing reported missing. -/
theorem c01_query_params_roundtrip (t : Tables) (ht : TablesOk t) (hamp : t.querySafe.contains 38 = false)
    (F : FloatLaws) (env : Env) (hS : schemaOKb env = true) (n : TName) (incs : List TName) (own : List Field)
    (hfind : env.find n = some (.record incs own))
    (hnames : ∀ fld ∈ allFields env (includeFuel env) n, ∀ c ∈ fld.name, c ≠ 38 ∧ c ≠ 61)
    (fuel : Nat) (fs : List (Bytes × Value)) (hv : ValOK (.record fs)) (q : Bytes)
    (hq : buildQueryParams env (escapeWith t.querySafe) fuel n (.record fs) = .ok q) :
    unmarshalQuery env n q =
      .ok (norm env (fuel + 1) (.ref n) (.record fs)) { rest := [], start := false } :=
  query_roundtrip env _ (escLaws_query t ht) F (schemaOK_of_check env hS) (noAmp_query t hamp) n incs own hfind
    hnames fuel fs hv q hq

/-- values of every type (bare primitives, arrays, enums, fixed, typerefs too), nested anywhere
inside a document: the tree reader on the raw-token tree of the writer's output returns the
normalised value. Together with `bridge` (Proofs/Ror2Bridge.lean: the cursor reader on the
rendering of a well-formed raw-token tree followed by a delimiter = the tree reader on the tree)
this is the round trip for nested positions. -/
theorem c01_ror2_roundtrip_nested (t : Tables) (ht : TablesOk t) (F : FloatLaws) (env : Env)
    (hS : schemaOKb env = true) (ign f : Nat) (scopeW : List Bytes) (scopeR : List Seg) (top : Bool)
    (ty : Ty) (v : Value) (doc : Doc) (hv : ValOK v) (henc : encode (wcfg env) f scopeW ty v = .ok doc) :
    treeRead (tcOf (rcfg env true ign)) top scopeR ty (rawOf (escapeWith t.querySafe) doc) =
      .ok (norm env f ty v) [] := by
  rw [rawOf_eq_treeOf _ true doc]
  exact roundtrip_tree (ror2Ctx env _ true (escLaws_query t ht) F (schemaOK_of_check env hS)) ign f scopeW scopeR top ty v doc hv henc

/-- …and every document the writer emits is the rendering of a well-formed raw-token tree -/
theorem c01_ror2_output_wellformed (t : Tables) (ht : TablesOk t) (F : FloatLaws) (doc : Doc) :
    renderRor2 (escapeWith t.querySafe) doc = renderRaw (rawOf (escapeWith t.querySafe) doc) ∧
    RawWF (rawOf (escapeWith t.querySafe) doc) :=
  ⟨renderRor2_eq_renderRaw _ doc, rawOf_wf _ true (escLaws_query t ht) F doc⟩

/-! **JSON, at the level of the document tree.** The same generic induction
(`roundtrip_tree`, parametrised by how a format presents leaves and keys) instantiated with the
JSON reader's leaf semantics: integers parse back, floats go through `FloatLaws` (and, for float32,
`ConvLaws`: the reader parses a float64 and narrows it), bytes are written one code point per byte
and read back rune by rune (`runes_latin1`), NaN / ±Infinity travel as the three reserved strings.
The step from the emitted text to this tree is `parse_renderJson` / `parse_renderPretty` (composed in the
byte-level theorems below); it is also checked on every run by two independent strict parsers
(C03's oracle). -/

theorem c01_json_roundtrip_tree (env : Env) (F : FloatLaws) (C : ConvLaws) (hS : schemaOKb env = true)
    (ign f : Nat) (scopeW : List Bytes) (scopeR : List Seg) (top : Bool) (ty : Ty) (v : Value) (doc : Doc)
    (hv : ValOK v) (henc : encode (wcfg env) f scopeW ty v = .ok doc) :
    treeRead { env := env, tracker := { excl := .empty, ignore := ign } } top scopeR ty (treeOf jsonEnc doc) =
      .ok (norm env f ty v) [] :=
  json_roundtrip_tree env F C (schemaOK_of_check env hS) ign f scopeW scopeR top ty v doc hv henc

/-- **JSON (compact writer), byte level**: what the generated `UnmarshalJSON` — strict RFC 8259
parse, then the generated unmarshalers with scope tracking and required-field accounting — returns
on the bytes `MarshalJSON` wrote is the normalised value. Besides the hypotheses of the tree-level
theorem: `NumLaws` (strconv's float text is one JSON number token; an assumption about third-party
output, compared with Go on every run) and `DocTextOK` (the strings and keys of the document are
valid UTF-8 — easyjson replaces invalid sequences by U+FFFD, which no decoder can undo; byte
strings go through the Latin-1 mapping and need nothing). Composition of `json_roundtrip_tree`
with `parse_renderJson` (writer's escaper against the strict parser, number grammar, structure,
parser fuel). -/
theorem c01_json_roundtrip_bytes (env : Env) (F : FloatLaws) (C : ConvLaws) (N : NumLaws)
    (hS : schemaOKb env = true) (ign f : Nat) (ty : Ty) (v : Value) (kvs : List (Bytes × Doc)) (hv : ValOK v)
    (henc : encode (wcfg env) f [] ty v = .ok (.obj kvs)) (htext : DocTextOK (.obj kvs)) :
    unmarshalJson { env := env, tracker := { excl := .empty, ignore := ign } } ty (renderJson (.obj kvs)) =
      some (.ok (norm env f ty v) []) :=
  (unmarshalJson_parsed rfl (parse_renderJson N (.obj kvs) htext)).trans
    (congrArg some (json_roundtrip_tree env F C (schemaOK_of_check env hS) ign f [] [] true ty v _ hv henc))

/-- **JSON (pretty writer), byte level**: the indentation and line breaks sit exactly where the
grammar allows insignificant whitespace, so the same holds for `NewPrettyJsonWriter` output -/
theorem c01_json_pretty_roundtrip_bytes (env : Env) (F : FloatLaws) (C : ConvLaws) (N : NumLaws)
    (hS : schemaOKb env = true) (ign f : Nat) (ty : Ty) (v : Value) (kvs : List (Bytes × Doc)) (hv : ValOK v)
    (henc : encode (wcfg env) f [] ty v = .ok (.obj kvs)) (htext : DocTextOK (.obj kvs)) :
    unmarshalJson { env := env, tracker := { excl := .empty, ignore := ign } } ty (renderPretty 0 (.obj kvs)) =
      some (.ok (norm env f ty v) []) :=
  (unmarshalJson_parsed (by cases kvs <;> rfl) (parse_renderPretty N (.obj kvs) htext)).trans
    (congrArg some (json_roundtrip_tree env F C (schemaOK_of_check env hS) ign f [] [] true ty v _ hv henc))

/-- bytes and fixed values survive the JSON string representation: every byte 0x00–0xFF -/
theorem c01_json_bytes_roundtrip (b : Bytes) : jsonPrim .bytes (.str (latin1 b)) = .ok (.bytes b) [] :=
  jsonPrim_bytes b

/-! non-vacuity: a schema with an include, required / optional / defaulted fields, a union, an
enum and a map of arrays, and a value with metacharacters, an empty key and an empty array, meet
every hypothesis but `FloatLaws` (the strconv assumption, which this value does not exercise) -/
def exEnv : Env :=
  [("E", .enum [[65], [66]]),
   ("U", .union false [([97], .prim .i32), ([98], .prim .str)]),
   ("B", .record [] [⟨[120], .prim .bool, false, none⟩]),
   ("R", .record ["B"] [⟨[114], .prim .i32, false, none⟩, ⟨[111], .prim .str, true, none⟩,
        ⟨[100], .prim .i64, false, some (.i64 7)⟩, ⟨[117], .ref "U", false, none⟩,
        ⟨[109], .map (.arr (.prim .i32)), false, none⟩, ⟨[101], .ref "E", false, none⟩])]

def exVal : Value :=
  .record [([120], .bool true), ([114], .i32 (-5)), ([117], .union [([98], .str [40, 37, 43, 32])]),
    ([109], .map [([122], .arr [.i32 1, .i32 2]), ([], .arr [])]), ([101], .enum 2)]

example : schemaOKb exEnv = true := by decide +kernel
example : ValOK exVal := by simp [exVal, ValOK, ValOKKvs, ValOKList, KeysNodup]
example : ∃ kvs, encode (wcfg exEnv) 6 [] (.ref "R") exVal = .ok (.obj kvs) := ⟨_, rfl⟩
def exKvs : List (Bytes × Doc) :=
  match encode (wcfg exEnv) 6 [] (.ref "R") exVal with
  | .ok (.obj kvs) => kvs
  | _ => []

example (F : FloatLaws) :
    unmarshalRor2 (rcfg exEnv true 0) (.ref "R")
        (renderRor2 (escapeWith tablesV2.querySafe) (.obj exKvs)) =
      .ok (norm exEnv 6 (.ref "R") exVal) { rest := [], start := false, missing := [] } :=
  c01_ror2_roundtrip_query tablesV2 c01_tables_ok_v2 F exEnv (by decide +kernel) 0 6 _ exVal exKvs
    (by simp [exVal, ValOK, ValOKKvs, ValOKList, KeysNodup]) rfl

/-- the same value as a record of query parameters (an enum, a union, a map of arrays, an inherited
field among them): built, parsed and decoded back -/
example (F : FloatLaws) : ∃ q, buildQueryParams exEnv (escapeWith tablesV2.querySafe) 6 "R" exVal = .ok q ∧
    unmarshalQuery exEnv "R" q = .ok (norm exEnv 7 (.ref "R") exVal) { rest := [], start := false } := by
  refine ⟨_, rfl, ?_⟩
  exact c01_query_params_roundtrip tablesV2 c01_tables_ok_v2 c01_query_table_escapes_amp.1 F exEnv (by decide +kernel)
    "R" _ _ rfl (by decide +kernel) 6 _ (by simp [ValOK, ValOKKvs, ValOKList, KeysNodup]) _ rfl

/-- the same value through JSON: every hypothesis but the three strconv assumptions is met -/
example (F : FloatLaws) (C : ConvLaws) (N : NumLaws) :
    unmarshalJson { env := exEnv, tracker := { excl := .empty, ignore := 0 } } (.ref "R") (renderJson (.obj exKvs)) =
      some (.ok (norm exEnv 6 (.ref "R") exVal) []) :=
  c01_json_roundtrip_bytes exEnv F C N (by decide +kernel) 0 6 _ exVal exKvs
    (by simp [exVal, ValOK, ValOKKvs, ValOKList, KeysNodup]) rfl (by
      have : exKvs = [([101], Doc.str [66]),
          ([109], Doc.obj [([], Doc.arr []), ([122], Doc.arr [Doc.int 1, Doc.int 2])]),
          ([114], Doc.int (-5)), ([117], Doc.obj [([98], Doc.str [40, 37, 43, 32])]), ([120], Doc.bool true)] := rfl
      rw [this]
      simp only [DocTextOK, DocTextOKKvs, DocTextOKItems, and_true, true_and]
      decide +kernel)

end Restli.Codec
