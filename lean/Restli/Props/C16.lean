import Restli.Proofs.KeySet
/-! # C16 — batch calls correlate every response entry with the caller's original key

Model: `Model/KeySet.lean` (`restli/batchkeyset/{generic,primitive,set}.go`,
`BatchResponse.UnmarshalWithKeyLocator`, the key-part-only equality of generated complex keys).
Keys carry an identity tag `Key.id` that nothing in the model inspects: "the very key value the
caller supplied" is equality of `Key`s *including* the tag.

Parameters of the theorems (the codec side, C01/C03, and C10 enter here as hypotheses):
* `O : KeyOps α` — the key type's `Equals` and `ComputeHash().MapKey()`;
  `HashCongrOn O keys` — Equal keys among `keys` hash alike — is C10's law for the key type (`c10_*_equal_implies_same_hash`);
* symmetry / transitivity of `O.eq` on the keys involved (C10; excludes nothing but is not free);
* `encode`/`enc` — `MarshalRestLi` into the query-parameter writer; `EncInj`: inequivalent keys have
  different encodings (C01: the encoding can be decoded back to an Equal key);
* `decode` — `NewRor2Reader` + `UnmarshalRestLi[K]` of a JSON member name; the theorems only use
  "the decoded key is Equal to a stored key", never how it was obtained (F4 lives there);
* `goEq` — Go's key equality on the response maps' key type `K` (pointer identity / `==`).

Hypotheses and what they stand for (none of them guards against a defect of the code)
* `HashCongrOn`, symmetry/transitivity of `O.eq` — laws of the key type (C10's subject); they are
  assumed here, and shown for one key type (`c16_float_keys_hash_congr`: zero is normalised before
  hashing, so float-bearing keys are included);
* the hypotheses of `c16_response_accepted_when_wellformed` spell out "a well-formed reply about
  requested keys". The *correlation* theorem `c16_response_filed_under_original` needs none: a reply
  naming a key or a field twice is rejected (`c16_response_repeated_key_is_error`,
  `c16_response_repeated_field_is_error`), so a successful unmarshal has lost no entry;
* primitive key sets return the stored key (`c16_prim_locate_returns_original`), `+0/−0` included. -/
namespace Restli.KeySet
open Restli Restli.Equals

variable {α V : Type}

/-- A rejected key really is a duplicate of a key already in the set. -/
theorem c16_addKey_rejects_only_dups (O : KeyOps α) (s : GenericSet α) (t : Key α)
    (h : addKey O s t = none) : ∃ k ∈ s.allKeys, O.eq t.val k.val = true := by
  obtain ⟨k, hk, he⟩ := (addKey_eq_none_iff O s t).1 h
  exact ⟨k, mem_allKeys_of_bucket hk, he⟩

/-- `AddKey` rejects **iff** an Equal key is already in the set — whatever bucket it hashed to,
however many unequal keys share a bucket. `HashCongrOn` (Equal keys among those at hand hash alike)
is the key type's C10 law (`c10_*_equal_implies_same_hash`); it is a hypothesis about the *parameter* `O`. Without it the
statement fails: an Equal key hashed into another bucket is accepted (last `example`s of this file). -/
theorem c16_addKey_rejects_iff_dup (O : KeyOps α) (s : GenericSet α) (t : Key α)
    (g : Good O s) (hc : HashCongrOn O (t :: s.allKeys)) :
    addKey O s t = none ↔ ∃ k ∈ s.allKeys, O.eq t.val k.val = true :=
  addKey_none_iff_dup g t hc

/-- a key type as generated for `record K { f: double }`: Equals is `==`, hash is `HashFloat64` -/
def floatKeyOps : KeyOps UInt64 := ⟨floatEq64, fun b => Fnv.hashFloat64 Fnv.paramsV2 b⟩

/-- that key type satisfies the hypothesis unconditionally: `==` floats hash alike -/
theorem c16_float_keys_hash_congr (keys : List (Key UInt64)) : HashCongrOn floatKeyOps keys := by
  intro a _ b _ he
  simp only [floatKeyOps, Fnv.hashFloat64, Fnv.addFloat64] at he ⊢
  rw [((floatEq64_iff _ _).1 he).2.2]

/-- `AddAllKeys` on an empty set succeeds iff no key of the list is Equal to an earlier one; on
success the set holds exactly the caller's keys (as objects), and is well formed; otherwise some
key is reported as rejected. -/
theorem c16_addAll_rejects_iff_dup (O : KeyOps α) (ts : List (Key α)) (hc : HashCongrOn O ts) :
    (ts.Pairwise (fun a b => O.eq b.val a.val = false) →
      ∃ s, addAll O ts = .inr s ∧ Good O s ∧ s.allKeys.Perm ts) ∧
    (¬ ts.Pairwise (fun a b => O.eq b.val a.val = false) → ∃ j, addAll O ts = .inl j) :=
  addAllFrom_spec ts 0 GenericSet.empty [] (good_empty O) (.refl _) .nil hc

/-- For any probe Equal to a stored key, `LocateOriginalKey` returns **that stored key object**
(same identity tag) — not the probe, not another key of the same bucket. -/
theorem c16_locate_returns_original (O : KeyOps α) (s : GenericSet α) (g : Good O s)
    (k probe : Key α) (hk : k ∈ s.allKeys) (he : O.eq k.val probe.val = true)
    (hhash : O.hash k.val = O.hash probe.val)
    (hsymm : ∀ a ∈ s.allKeys, O.eq a.val probe.val = true → O.eq probe.val a.val = true)
    (htrans : ∀ a ∈ s.allKeys, ∀ b ∈ s.allKeys, O.eq b.val probe.val = true →
      O.eq probe.val a.val = true → O.eq b.val a.val = true) :
    locate O s probe = some k := by
  simp only [locate]
  have hkb : k ∈ bucketOf (O.hash probe.val) s.buckets := by
    rw [← hhash]; exact (mem_allKeys_iff_bucket g).1 hk
  apply find?_unique (g.bucketOf_pairwise _) hkb he
  intro a ha b hb hr hpa hpb
  have := htrans a (mem_allKeys_of_bucket ha) b (mem_allKeys_of_bucket hb) hpb
    (hsymm a (mem_allKeys_of_bucket ha) hpa)
  rw [hr] at this
  cases this

/-- Whatever `LocateOriginalKey` returns is one of the caller's keys and is Equal to the probe. -/
theorem c16_locate_sound (O : KeyOps α) (s : GenericSet α) (probe o : Key α)
    (h : locate O s probe = some o) : o ∈ s.allKeys ∧ O.eq o.val probe.val = true := by
  simp only [locate] at h
  have hp := List.find?_some h
  exact ⟨mem_allKeys_of_bucket (List.mem_of_find?_eq_some h), hp⟩

/-- When every key marshals, the transmitted `ids` are the encodings of exactly the keys of the
set — one item per key (`Perm`), so each id once, none missing — in ascending byte order. If the
encoding separates inequivalent keys (`EncInj`) no item is repeated and the order is strict. -/
theorem c16_ids_each_once_sorted (O : KeyOps α) (s : GenericSet α) (g : Good O s)
    (encode : α → Option Bytes) (enc : α → Bytes)
    (henc : ∀ k ∈ s.allKeys, encode k.val = some (enc k.val)) :
    ∃ l, s.ids encode = some l ∧
      l.Perm (s.allKeys.map (fun k => enc k.val)) ∧
      l.length = s.keyCount ∧
      l.Pairwise (fun a b => bytesLe a b = true) ∧
      (HashCongrOn O s.allKeys →
        (∀ a ∈ s.allKeys, ∀ b ∈ s.allKeys, O.eq a.val b.val = true → O.eq b.val a.val = true) →
        EncInj O enc → l.Nodup ∧ l.Pairwise (fun a b => bytesLe a b = true ∧ a ≠ b)) := by
  refine ⟨isort bytesLe (s.allKeys.map (fun k => enc k.val)), ?_, isort_perm _ _, ?_, sortIds_sorted _, ?_⟩
  · simp [GenericSet.ids, encodeIds, mapM_encode_some encode enc s.allKeys henc]
  · rw [(isort_perm _ _).length_eq, List.length_map, g.count]
  · intro hc _ hinj
    -- the invariant says `O.eq b a = false` for `a` before `b`; `EncInj` there gives `enc b ≠ enc a`
    have hnd : (isort bytesLe (s.allKeys.map (fun k => enc k.val))).Nodup :=
      (isort_perm _ _).symm.nodup
        (List.pairwise_map.2 ((allKeys_sep g hc).imp fun hab => (hinj _ _ hab).symm))
    exact ⟨hnd, (sortIds_sorted _).and hnd⟩

/-- The `ids` list is the same for every iteration order of the bucket map (and of the buckets'
insertion history): it is a function of the multiset of keys. -/
theorem c16_ids_order_independent (encode : α → Option Bytes) (enc : α → Bytes)
    (keys keys' : List (Key α)) (hp : keys.Perm keys')
    (henc : ∀ k ∈ keys, encode k.val = some (enc k.val)) :
    encodeIds encode keys = encodeIds encode keys' := by
  have henc' : ∀ k ∈ keys', encode k.val = some (enc k.val) := fun k hk => henc k (hp.mem_iff.2 hk)
  simp only [encodeIds, mapM_encode_some encode enc keys henc, mapM_encode_some encode enc keys' henc',
    Option.map_some]
  rw [sortIds_eq_of_perm (hp.map _)]

/-- If a key does not marshal, encoding fails as a whole: no partial `ids` list is sent. -/
theorem c16_ids_marshal_error (encode : α → Option Bytes) (s : GenericSet α)
    (h : ∃ k ∈ s.allKeys, encode k.val = none) : s.ids encode = none := by
  simp [GenericSet.ids, encodeIds, mapM_encode_none encode s.allKeys h]

/-- What happens when the encoding is **not** injective on inequivalent keys: both keys are
accepted, and the same id string is transmitted twice. The witness is a constant encoder on two
unequal `Nat` keys. -/
theorem c16_ids_non_injective_sends_twice :
    ∃ (O : KeyOps Nat) (enc : Nat → Bytes) (s : GenericSet Nat),
      addAll O [⟨1, 1⟩, ⟨2, 2⟩] = .inr s ∧ s.ids (fun k => some (enc k)) = some [[78], [78]] :=
  ⟨⟨fun a b => a == b, fun a => a.toUInt32⟩, fun _ => [78], _, rfl, by decide⟩

/-- **Every entry of results, statuses and errors is filed under the caller's own key.** Whenever unmarshalling a response succeeds, then for *every* occurrence of
one of the three fields in the document: each of its raw member names decoded to a key `p` and was
located to a key `k` that is one of the caller's key objects (`k ∈ s.allKeys`, identity tag
included) and Equal to `p`; these located keys are pairwise distinct; and the resulting map is
**exactly** the field's entries re-keyed by them — same length, same order, same values: none
lost, none duplicated, none moved to another key. (A reply that would lose an entry — a key or a
field named twice — is not accepted at all: see the two theorems below.) -/
theorem c16_response_filed_under_original (O : KeyOps α) (s : GenericSet α)
    (decode : Bytes → Option (Key α)) (goEq : Key α → Key α → Bool) (strict : Bool)
    (doc : List (FieldTag × List (Bytes × Option V))) (b : BatchResponse α V)
    (h : unmarshalWithKeyLocator strict (locateFromReader decode (locate O s)) goEq doc = .ok b) :
    ∀ f ∈ doc, f.1 ≠ .other → ∃ es : List (AEntry α V), f.2 = es.map AEntry.plain ∧
      (∀ e ∈ es, e.2.1 ∈ s.allKeys ∧ ∃ p, decode e.1 = some p ∧ locate O s p = some e.2.1 ∧
        O.eq e.2.1.val p.val = true) ∧
      NoRepeat goEq (es.map (·.2.1)) ∧ b.get f.1 = some (es.map AEntry.filed) := by
  intro f hfm hne
  obtain ⟨_, _, h3⟩ := unmarshalFields_sound (unmarshalWithKeyLocator_inv h)
  obtain ⟨m, hfill, hget⟩ := h3 f hfm hne
  obtain ⟨es, e1, e2, e3, e4⟩ := fillField_sound hfill
  rw [List.nil_append] at e3
  subst e3
  refine ⟨es, e1, fun e he => ?_, ?_, hget⟩
  · obtain ⟨p, hd, hlc⟩ := locateFromReader_inv (e2 e he)
    obtain ⟨hin, heq⟩ := c16_locate_sound O s p _ hlc
    exact ⟨hin, p, hd, hlc, heq⟩
  · have := e4 List.Pairwise.nil
    rwa [List.map_map] at this

/-- Conversely a well-formed reply about requested keys **is accepted**: if every raw key decodes
to something Equal to a stored key (annotation `k`), no field names one key twice, each of the
three fields occurs at most once, `results` is present (and, in v2, there is no other member), then
unmarshalling succeeds and yields exactly the entries re-keyed by those stored key objects. -/
theorem c16_response_accepted_when_wellformed (O : KeyOps α) (s : GenericSet α) (g : Good O s)
    (decode : Bytes → Option (Key α)) (goEq : Key α → Key α → Bool) (strict : Bool) (d : ADoc α V)
    (hother : ∀ f ∈ d, f.1 = .other → strict = false)
    (hsrv : ∀ f ∈ d, f.1 ≠ .other → ∀ e ∈ f.2, e.2.1 ∈ s.allKeys ∧
      ∃ p, decode e.1 = some p ∧ O.eq e.2.1.val p.val = true ∧ O.hash e.2.1.val = O.hash p.val ∧
        (∀ a ∈ s.allKeys, O.eq a.val p.val = true → O.eq p.val a.val = true) ∧
        (∀ a ∈ s.allKeys, ∀ b ∈ s.allKeys, O.eq b.val p.val = true → O.eq p.val a.val = true →
          O.eq b.val a.val = true))
    (hnr : ∀ f ∈ d, f.1 ≠ .other → NoRepeat goEq (f.2.map (·.2.1)))
    (honce : FieldsOnce [] (d.map (·.1)))
    (hres : FieldTag.results ∈ d.map (·.1)) :
    ∃ b, unmarshalWithKeyLocator strict (locateFromReader decode (locate O s)) goEq d.plain = .ok b ∧
      ∀ pre post t es, d = pre ++ (t, es) :: post → t ≠ .other → b.get t = some (es.map AEntry.filed) := by
  have hloc : d.Located strict (locateFromReader decode (locate O s)) goEq := by
    intro f hf
    refine ⟨hother f hf, fun hne => ⟨fun e he => ?_, hnr f hf hne⟩⟩
    obtain ⟨hk, p, hd, he', hh, hs, ht⟩ := hsrv f hf hne e he
    simp [locateFromReader, hd, c16_locate_returns_original O s g _ p hk he' hh hs ht]
  obtain ⟨b, hok⟩ := unmarshalFields_ok d [] {} hloc honce
  refine ⟨b, ?_, ?_⟩
  · simp only [unmarshalWithKeyLocator, hok]
    have : d.plain.any (fun f => f.1 == .results) = true := by
      simp only [ADoc.plain, List.any_map, List.any_eq_true]
      obtain ⟨f, hf, hft⟩ := List.mem_map.1 hres
      exact ⟨f, hf, by simp [Function.comp, hft]⟩
    simp [this]
  · intro pre post t es hd ht
    subst hd
    -- the stored map is what `fillField` returned on this field's entries, and that is known
    obtain ⟨_, _, h3⟩ := unmarshalFields_sound hok
    obtain ⟨m, hfill, hget⟩ := h3 (t, es.map AEntry.plain) (List.mem_map.2 ⟨(t, es), by simp, rfl⟩) ht
    obtain ⟨hl, hnr'⟩ := (hloc (t, es) (by simp)).2 ht
    rw [fillField_ok [] es hl (by simpa using hnr')] at hfill
    cases hfill
    exact hget

/-- **A key named twice in one of the three maps is an error**: if the original an entry is
located to already has an entry in the map being filled, this step of the fill loop fails with
`repeatedKey`. -/
theorem c16_response_repeated_key_is_error (locator : Bytes → Except ErrClass (Key α))
    (goEq : Key α → Key α → Bool) (m : List (Key α × V)) (raw : Bytes) (v : Option V)
    (rest : List (Bytes × Option V)) (o : Key α) (hl : locator raw = .ok o)
    (hp : ∃ kv ∈ m, goEq kv.1 o = true) :
    fillField locator goEq m ((raw, v) :: rest) = .error .repeatedKey := by
  rw [fillField, hl]
  exact if_pos (List.any_eq_true.2 hp)

/-- **A field named twice is an error**: the field loop, on meeting a known field it has already
seen, stops with `repeatedField`. -/
theorem c16_response_repeated_field_is_error (strict : Bool) (locator : Bytes → Except ErrClass (Key α))
    (goEq : Key α → Key α → Bool) (seen : List FieldTag) (b : BatchResponse α V) (tag : FieldTag)
    (entries : List (Bytes × Option V)) (rest : List (FieldTag × List (Bytes × Option V)))
    (ht : tag ≠ .other) (hs : tag ∈ seen) :
    unmarshalFields strict locator goEq seen b ((tag, entries) :: rest) = .error .repeatedField := by
  rw [unmarshalFields_known ht, if_pos (List.contains_iff_mem.2 hs)]

/-- The result is never extended: every key of every resulting map is one of the caller's key
objects. -/
theorem c16_response_keys_are_callers (O : KeyOps α) (s : GenericSet α)
    (decode : Bytes → Option (Key α)) (goEq : Key α → Key α → Bool) (strict : Bool)
    (doc : List (FieldTag × List (Bytes × Option V))) (b : BatchResponse α V)
    (h : unmarshalWithKeyLocator strict (locateFromReader decode (locate O s)) goEq doc = .ok b) :
    ∀ t m, b.get t = some m → ∀ kv ∈ m, kv.1 ∈ s.allKeys := by
  intro t m hm kv hkv
  by_cases hin : t ∈ doc.map (·.1)
  · obtain ⟨f, hfm, rfl⟩ := List.mem_map.1 hin
    have hne : f.1 ≠ .other := fun e => by rw [e] at hm; cases hm
    obtain ⟨es, _, e2, _, e4⟩ := c16_response_filed_under_original O s decode goEq strict doc b h f hfm hne
    rw [e4] at hm
    cases hm
    obtain ⟨e, he, rfl⟩ := List.mem_map.1 hkv
    exact (e2 e he).1
  · obtain ⟨_, h2, _⟩ := unmarshalFields_sound (unmarshalWithKeyLocator_inv h)
    rw [h2 t hin] at hm
    cases t <;> cases hm

/-- **A response that mentions a key which was never requested is an error**: if some raw key
of `results`, `statuses` or `errors` decodes to a key that is Equal to none of the caller's
keys (or does not decode at all), unmarshalling fails — it never returns a result. -/
theorem c16_unknown_key_is_error (O : KeyOps α) (s : GenericSet α)
    (decode : Bytes → Option (Key α)) (goEq : Key α → Key α → Bool) (strict : Bool)
    (doc : List (FieldTag × List (Bytes × Option V)))
    (h : ∃ f ∈ doc, f.1 ≠ .other ∧ ∃ e ∈ f.2,
      decode e.1 = none ∨ ∃ p, decode e.1 = some p ∧ ∀ k ∈ s.allKeys, O.eq k.val p.val = false) :
    ∃ x, unmarshalWithKeyLocator strict (locateFromReader decode (locate O s)) goEq doc = .error x := by
  cases hu : unmarshalWithKeyLocator strict (locateFromReader decode (locate O s)) goEq doc with
  | error x => exact ⟨x, rfl⟩
  | ok b =>
    obtain ⟨f, hf, hne, e, he, hbad⟩ := h
    obtain ⟨es, e1, e2, _, _⟩ := c16_response_filed_under_original O s decode goEq strict doc b hu f hf hne
    rw [e1] at he
    obtain ⟨a, ha, rfl⟩ := List.mem_map.1 he
    obtain ⟨ho, p, hp, _, heq⟩ := e2 a ha
    simp only [AEntry.plain] at hbad
    rcases hbad with hnone | ⟨p', hp', hall⟩
    · rw [hnone] at hp; cases hp
    · rw [hp'] at hp
      cases hp
      have := hall _ ho
      rw [heq] at this
      cases this

/-- The unknown key is reported as such (error class `unknownKey`) by the locator itself. -/
theorem c16_unknown_key_class (O : KeyOps α) (s : GenericSet α) (decode : Bytes → Option (Key α))
    (raw : Bytes) (p : Key α) (hd : decode raw = some p)
    (h : ∀ k ∈ s.allKeys, O.eq k.val p.val = false) :
    locateFromReader decode (locate O s) raw = .error .unknownKey := by
  simp [locateFromReader, hd, locate_eq_none h]

/-- Generated complex keys compare and hash by their **key part only** (`ComplexKeyEquals`,
`ComputeComplexKeyHash`): the verdict and the hash are the key record's, whatever the two
`$params` are; hence a key whose key part is Equal to a stored key's is rejected as a duplicate
whatever its params. (That a params-less key decoded from the response locates the caller's
original key *with* its params is `c16_locate_returns_original` at `complexOps K`; an `example`
below shows it on one set.) -/
theorem c16_complex_keys_ignore_params {κ π : Type} (K : KeyOps κ)
    (s : GenericSet (ComplexKey κ π)) (g : Good (complexOps K) s) (i j : Nat)
    (a b : ComplexKey κ π) (hin : (⟨i, a⟩ : Key _) ∈ s.allKeys)
    (hk : K.eq b.key a.key = true) (hh : K.hash b.key = K.hash a.key) :
    (∀ p q : Option π, (complexOps K).eq ⟨b.key, p⟩ ⟨a.key, q⟩ = K.eq b.key a.key ∧
        (complexOps K).hash ⟨b.key, p⟩ = K.hash b.key) ∧
    (∀ p : Option π, addKey (complexOps K) s ⟨j, ⟨b.key, p⟩⟩ = none) := by
  refine ⟨fun p q => ⟨rfl, rfl⟩, fun p => ?_⟩
  refine (addKey_eq_none_iff _ s _).2 ⟨⟨i, a⟩, ?_, hk⟩
  have := (mem_allKeys_iff_bucket g).1 hin
  simpa [complexOps, hh] using this

/-- `primitiveKeySet.AddKey` rejects exactly the keys `==` to one already present (Go map
lookup; no hashing is involved). A NaN is never a duplicate, not even of itself. -/
theorem c16_prim_addKey_rejects_iff_dup (s : PrimSet) (t : Key Prim) :
    s.addKey t = none ↔ ∃ k ∈ s.keys, Prim.eq t.val k.val = true := by
  simp [PrimSet.addKey]

/-- `primitiveKeySet.LocateOriginalKey` returns the **stored** key — the value
the caller added, identity tag and bit pattern included — for every probe `==` to it; in
particular the caller's `+0.0` when the server answers `-0`. (`PrimGood`: the set was built by
`AddKey`, `primGood_addKey`.) -/
theorem c16_prim_locate_returns_original (s : PrimSet) (g : PrimGood s) (k probe : Key Prim)
    (hk : k ∈ s.keys) (he : Prim.eq probe.val k.val = true) : s.locate probe = some k := by
  simp only [PrimSet.locate]
  have hpw : s.keys.Pairwise (fun a b => Prim.eq b.val a.val = false) := g
  apply find?_unique hpw hk he
  intro a _ b _ hr hpa hpb
  -- probe == a and probe == b give b == a, contradicting the invariant
  have h1 : Prim.eq b.val probe.val = true := by rw [Prim.eq_symm]; exact hpb
  have := Prim.eq_trans _ _ _ h1 hpa
  rw [hr] at this
  cases this

/-- whatever the primitive set returns is one of the caller's keys and `==` to the probe -/
theorem c16_prim_locate_sound (s : PrimSet) (probe o : Key Prim) (h : s.locate probe = some o) :
    o ∈ s.keys ∧ Prim.eq probe.val o.val = true := by
  simp only [PrimSet.locate] at h
  have := List.find?_some h
  exact ⟨List.mem_of_find?_eq_some h, by simpa using this⟩

/-- A probe that is `==` to no key of the set is not found (→ "Unknown key" error). -/
theorem c16_prim_unknown_key (s : PrimSet) (probe : Key Prim)
    (h : ∀ k ∈ s.keys, Prim.eq probe.val k.val = false) : s.locate probe = none := by
  simp only [PrimSet.locate, List.find?_eq_none]
  intro x hx
  simp [h x hx]

/-- a key type with deliberately colliding hashes (`hash = v mod 2`): three keys, two buckets -/
def collOps : KeyOps Nat := ⟨fun a b => a == b, fun a => (a % 2).toUInt32⟩

def sampleSet : GenericSet Nat := ⟨[(1, [⟨10, 1⟩, ⟨11, 3⟩]), (0, [⟨12, 2⟩])], 3⟩

example : addAll collOps [⟨10, 1⟩, ⟨11, 3⟩, ⟨12, 2⟩] = .inr sampleSet := by decide
example : addAll collOps [⟨10, 1⟩, ⟨11, 3⟩, ⟨12, 2⟩, ⟨13, 3⟩] = .inl 3 := by decide
/-- the colliding, unequal key 3 is found behind key 1 in its bucket, with its own tag -/
example : locate collOps sampleSet ⟨99, 3⟩ = some ⟨11, 3⟩ := by decide
example : locate collOps sampleSet ⟨99, 5⟩ = none := by decide
example : sampleSet.ids (fun k => some [48 + k.toUInt8]) = some [[49], [50], [51]] := by decide
/-- a reply mentioning all three keys across the three maps, in another order -/
example : (unmarshalWithKeyLocator false
    (locateFromReader (fun raw => some ⟨99, raw.length⟩) (locate collOps sampleSet))
    (fun a b => a.id == b.id)
    [(.statuses, [([0, 0, 0], some 7)]), (.other, [([9], none)]),
     (.results, [([0, 0], some 200), ([0], some 201)]), (.errors, [([0, 0, 0], some 500)])]).toOption.map
      (fun b => (b.results, b.statuses, b.errors))
    = some (some [(⟨12, 2⟩, 200), (⟨10, 1⟩, 201)], some [(⟨11, 3⟩, 7)], some [(⟨11, 3⟩, 500)]) := by
  rfl
/-- an unknown key, and a missing `results` -/
example : (unmarshalWithKeyLocator true
    (locateFromReader (fun raw => some ⟨99, raw.length⟩) (locate collOps sampleSet))
    (fun a b => a.id == b.id) [(.results, [([0, 0, 0, 0], some (200 : Nat))])]).toOption.isNone = true := by
  decide
example : (unmarshalWithKeyLocator (α := Nat) (V := Nat) true (fun _ => .error .badKey) (fun a b => a.id == b.id)
    [(.statuses, [])]) = .error .missingResults := by rfl
/-- v2 rejects a response with any other member (`NoSuchFieldErr`), the root module skips it -/
example : (unmarshalWithKeyLocator (α := Nat) (V := Nat) true (fun _ => .error .badKey) (fun a b => a.id == b.id)
    [(.results, []), (.other, [])]) = .error .noSuchField := by rfl
example : (unmarshalWithKeyLocator (α := Nat) (V := Nat) false (fun _ => .error .badKey) (fun a b => a.id == b.id)
    [(.results, []), (.other, [])]) = .ok { results := some [] } := by rfl
/-- a key named twice in `results`, and `results` itself twice: both rejected -/
example : (unmarshalWithKeyLocator true
    (locateFromReader (fun raw => some ⟨99, raw.length⟩) (locate collOps sampleSet))
    (fun a b => a.id == b.id) [(.results, [([0], some (200 : Nat)), ([7], some 201)])]) = .error .repeatedKey := by rfl
example : (unmarshalWithKeyLocator true
    (locateFromReader (fun raw => some ⟨99, raw.length⟩) (locate collOps sampleSet))
    (fun a b => a.id == b.id) [(.results, [([0], some (200 : Nat))]), (.results, [([0, 0], some 500)])])
    = .error .repeatedField := by rfl
/-- zero signs: `{f:+0.0}` then `{f:−0.0}` is a duplicate; the primitive set hands
back the caller's `+0.0` for the probe `−0.0` -/
example : addAll floatKeyOps [⟨1, 0⟩, ⟨2, 0x8000000000000000⟩] = .inl 1 := by decide
example : (PrimSet.mk [⟨1, .f64 0⟩]).locate ⟨2, .f64 0x8000000000000000⟩ = some ⟨1, .f64 0⟩ := by decide
/-- the hypothesis `HashCongrOn` is necessary: with a (hypothetical) key type whose hash is not
congruent with its equality, an Equal key in another bucket is accepted -/
example : addAll (⟨fun _ _ => true, fun a => a.toUInt32⟩ : KeyOps Nat) [⟨1, 1⟩, ⟨2, 2⟩] ≠ .inl 1 := by decide
/-- complex keys: same key part, different params — a duplicate -/
example : addAll (complexOps (π := Nat) collOps) [⟨1, ⟨5, some 1⟩⟩, ⟨2, ⟨5, some 2⟩⟩] = .inl 1 := by decide
example : locate (complexOps (π := Nat) collOps) ⟨[(1, [⟨1, ⟨5, some 1⟩⟩])], 1⟩ ⟨9, ⟨5, none⟩⟩
    = some ⟨1, ⟨5, some 1⟩⟩ := by decide

end Restli.KeySet
