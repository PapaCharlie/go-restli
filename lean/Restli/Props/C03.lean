import Restli.Props.C01
/-! # C03 — wire-format conformance against an independent oracle

The independent oracles are (a) in Lean, `Json.parse` — a strict RFC 8259 parser written from
the grammar, sharing nothing with the writer model — and the ROR2 grammar facts below; (b) in
the harness, `encoding/json` in strict mode, a reference ROR2 grammar parser and a reference
encoder written from the protocol rules (harness/codec/refdoc.go, refror2.go), against which
every emitted document and every accepted document is compared in both directions on every run.

Proved here, for all byte strings: the context-specific percent-encoding claims of the ROR2
grammar (a string token never contains a raw structural byte in any of the three contexts, is
never empty, the empty string is written as `''` and nothing else is), and how the JSON string
writer treats every ASCII byte; and for whole documents: everything the compact JSON writer emits
is accepted by the strict parser and parses to exactly the document's tree
(`c03_json_output_parses_to_its_tree`), and everything the ROR2 writers emit is the rendering of a
well-formed raw-token tree (`c03_ror2_output_is_wellformed_tree`), which the reader reads as that
tree (`bridge`, Proofs/Ror2Bridge.lean); the pretty JSON writer's output parses to the same tree.
The "conversely" direction (reference documents in other legal spellings) is decided by the harness. -/
namespace Restli.Codec
open Escape

/-- ROR2 string tokens (values and map keys, which go through the same escaper) never contain a raw structural
byte `( ) , :` in any flavour, and are never empty -/
theorem c03_ror2_string_token_wellformed (t : Tables) (h : TablesOk t) (b : Bytes) :
    (∀ c ∈ ror2Str (escapeWith t.pathSafe) b, c ≠ 40 ∧ c ≠ 41 ∧ c ≠ 44 ∧ c ≠ 58) ∧
    (∀ c ∈ ror2Str (escapeWith t.querySafe) b, c ≠ 40 ∧ c ≠ 41 ∧ c ≠ 44 ∧ c ≠ 58) ∧
    (∀ c ∈ ror2Str (replaceWith t.headerEscapes) b, c ≠ 40 ∧ c ≠ 41 ∧ c ≠ 44 ∧ c ≠ 58) ∧
    ror2Str (escapeWith t.pathSafe) b ≠ [] ∧ ror2Str (escapeWith t.querySafe) b ≠ [] ∧
    ror2Str (replaceWith t.headerEscapes) b ≠ [] := by
  have p := ror2Str_keyClean (escLaws_path t h) b
  have q := ror2Str_keyClean (escLaws_query t h) b
  have r := ror2Str_keyClean (escLaws_header t h) b
  exact ⟨p.2, q.2, r.2, p.1, q.1, r.1⟩

/-- the token `''` denotes the empty string and only the empty string: a non-empty string is
never written as `''` (its apostrophes are always percent-encoded) -/
theorem c03_ror2_empty_marker_unambiguous (t : Tables) (h : TablesOk t) (b : Bytes) (hb : b ≠ []) :
    ror2Str (escapeWith t.pathSafe) b ≠ Gen.emptyMarker ∧
    ror2Str (escapeWith t.querySafe) b ≠ Gen.emptyMarker ∧
    ror2Str (replaceWith t.headerEscapes) b ≠ Gen.emptyMarker := by
  have key : ∀ {esc : Bytes → Bytes} {plus : Bool}, EscLaws esc plus → ror2Str esc b ≠ Gen.emptyMarker := fun E => by
    rw [ror2Str_of_ne_nil _ b hb]
    exact esc_ne_emptyMarker E b
  exact ⟨key (escLaws_path t h), key (escLaws_query t h), key (escLaws_header t h)⟩

open Json in
/-- JSON strings: every ASCII byte is either copied (and is then neither a quote, a backslash nor
a control character) or written as an escape sequence that starts with a backslash -/
theorem c03_json_ascii_bytes (c : UInt8) :
    (asciiSafe c = true → c ≠ 34 ∧ c ≠ 92 ∧ 32 ≤ c) ∧
    (asciiSafe c = false → (escapeAscii c).head? = some 92) := by
  constructor
  · intro h
    have p := asciiSafe_plain c h
    exact ⟨p.1, p.2.2, UInt8.not_lt.1 p.2.1⟩
  · exact fun _ => escapeAscii_head c

/-- **every compact JSON document the library emits is well-formed and denotes its tree**: the
strict RFC 8259 parser accepts `renderJson d` and returns exactly `treeOf jsonEnc d` (keys are the
field names / map keys / member aliases as written, bytes one code point per byte, enums their
symbols, NaN and the infinities the three reserved strings, integers and finite floats number
tokens), for every document whose strings and keys are valid UTF-8; `NumLaws` is the assumption
that strconv's float text is one JSON number token -/
theorem c03_json_output_parses_to_its_tree (N : NumLaws) (d : Doc) (hok : DocTextOK d) :
    Json.parse (renderJson d) = some (treeOf jsonEnc d) :=
  parse_renderJson N d hok

/-- the same for the pretty writer: its output parses to the same tree as the compact one -/
theorem c03_json_pretty_output_parses_to_its_tree (N : NumLaws) (d : Doc) (hok : DocTextOK d) :
    Json.parse (renderPretty 0 d) = some (treeOf jsonEnc d) :=
  parse_renderPretty N d hok

/-- the JSON string writer against the strict parser, for every valid UTF-8 byte string and
whatever follows: quotes, backslashes, control characters, `<`, `>`, `&`, U+2028/U+2029 and all
multi-byte sequences come back byte for byte -/
theorem c03_json_string_roundtrip (s rest : Bytes) (fuel : Nat) (hv : Utf8.validUtf8 s = true) :
    Json.parseValue (fuel + 1) (Json.jsonString s ++ rest) = some (.str s, rest) :=
  Json.parseValue_jsonString s rest fuel hv

/-- **every ROR2 document the library emits follows the grammar**: it is the rendering
(`(k:v,…)`, `List(…)`, tokens) of a raw-token tree all of whose tokens and keys are non-empty and
free of raw structural bytes, in any flavour whose tables are sound -/
theorem c03_ror2_output_is_wellformed_tree (t : Tables) (ht : TablesOk t) (F : FloatLaws) (doc : Doc) :
    (renderRor2 (escapeWith t.pathSafe) doc = renderRaw (rawOf (escapeWith t.pathSafe) doc) ∧
      RawWF (rawOf (escapeWith t.pathSafe) doc)) ∧
    (renderRor2 (escapeWith t.querySafe) doc = renderRaw (rawOf (escapeWith t.querySafe) doc) ∧
      RawWF (rawOf (escapeWith t.querySafe) doc)) ∧
    (renderRor2 (replaceWith t.headerEscapes) doc = renderRaw (rawOf (replaceWith t.headerEscapes) doc) ∧
      RawWF (rawOf (replaceWith t.headerEscapes) doc)) :=
  ⟨⟨renderRor2_eq_renderRaw _ doc, rawOf_wf _ false (escLaws_path t ht) F doc⟩,
   c01_ror2_output_wellformed t ht F doc,
   ⟨renderRor2_eq_renderRaw _ doc, rawOf_wf _ false (escLaws_header t ht) F doc⟩⟩

/-! closed examples: the strict parser reads back a string with every kind of escape, and rejects two
near misses -/
example : (match Json.parse (Json.jsonString [97, 34, 92, 10, 0, 60, 0xC3, 0xA9]) with
    | some (.str b) => b == [97, 34, 92, 10, 0, 60, 0xC3, 0xA9] | _ => false) = true := by decide +kernel
example : (Json.parse [123, 34, 97, 34, 58, 49, 44, 125]).isNone = true := by decide +kernel     -- trailing comma
example : (Json.parse [48, 49]).isNone = true := by decide +kernel                               -- leading zero

end Restli.Codec
