import Restli.Proofs.D2
/-! # C19 — D2 announcement tracking and host selection follow the event history

Model: `Model/D2.lean`
(`handleUriUpdate`, `copy`, `filterAndChooseHost`, `chooseHost` as written, for both module
generations — the two copies are identical). Specification: `Spec/D2.lean`.

Every statement is for all histories / all announcement sets / all priority lists / all iteration
orders of every `range` / all draws; nothing is bounded. Weights are scaled naturals, the draw is
the rational `p/q`; float rounding is outside the model (see `Model/D2.lean`). -/
namespace Restli.D2

/-- After any history of tree events, starting from the empty watcher `getServiceUris` creates,
the announcement stored for every node is the fold the property describes: the last
well-formed, weight-carrying write to that node unless a deletion came later; malformed and
weight-less updates, events on the watched root itself, and events on other nodes leave it alone. -/
theorem c19_snapshot_is_fold (zk : Bytes) (h : List Event) (n : Bytes) :
    mapLookup n (runUpdates (ServiceUris.init zk) h).uris = Spec.lastValid n (Spec.readHistory zk h) :=
  (runUpdates_lookup zk h).2 n

/-- The same for every snapshot handed out along the way: the `i`-th snapshot is the fold of the
first `i` events. -/
theorem c19_every_snapshot_is_prefix_fold (zk : Bytes) (h : List Event) (i : Nat) (hi : i ≤ h.length) :
    ∃ s, (snapshots (ServiceUris.init zk) h)[i]? = some s ∧
      ∀ n, mapLookup n s.uris = Spec.lastValid n (Spec.readHistory zk (h.take i)) :=
  ⟨_, snapshots_getElem? _ h i hi, fun n => c19_snapshot_is_fold zk (h.take i) n⟩

/-- The (host, weight) pairs host selection iterates over are exactly the weights of the
announcements in force: the set of announced URIs used for resolution equals the fold. -/
theorem c19_resolution_sees_fold (zk : Bytes) (h : List Event) (e : Entry) :
    e ∈ iterSeq (runUpdates (ServiceUris.init zk) h).uris ↔
      ∃ n u, Spec.lastValid n (Spec.readHistory zk h) = some u ∧ e ∈ u.weights := by
  rw [mem_iterSeq _ (runUpdates_lookup zk h).1]
  simp only [(runUpdates_lookup zk h).2]

/-- Heap-level statement of "snapshots handed out earlier are never modified afterwards".
`handleUriUpdateH` makes allocation and in-place writes explicit (`copy()` allocates,
`delete`/`m[k] = v` write into the cell they are applied to). Starting from any allocated watcher
`a`, after the events `h` the client holds pointer `a₁`; after any further events `h'` the cell
`a₁` — and every other cell that existed by then — still has exactly the content it had, and that
content is the value-level fold. The run never dereferences an unallocated pointer.

What this does and does not show about the Go code: it shows that the *algorithm as modelled*
(copy, then write only into the fresh copy) never writes to an object reachable from an earlier
snapshot pointer. That the Go functions really implement these steps — in particular that
`copy()` shares no map with its receiver — is established by the harness, which re-inspects every
earlier real snapshot after every later event. `*Uri` values are shared between snapshots in Go;
the modelled code never writes to them, and the model treats them as values. -/
theorem c19_old_snapshots_unchanged (H : Heap) (a : Nat) (w : ServiceUris) (h h' : List Event)
    (hg : H.get? a = some w) :
    ∃ H₁ a₁ H₂ a₂, runUpdatesH H a h = some (H₁, a₁) ∧ runUpdatesH H a (h ++ h') = some (H₂, a₂) ∧
      H₁.get? a₁ = some (runUpdates w h) ∧ H₂.get? a₁ = H₁.get? a₁ ∧
      ∀ b, b < H₁.size → H₂.get? b = H₁.get? b := by
  obtain ⟨H₁, a₁, r1, g1, _, _⟩ := runH_refines H a h w hg
  obtain ⟨H₂, a₂, r2, _, _, f2⟩ := runH_refines H₁ a₁ h' _ g1
  have ha₁ : a₁ < H₁.size := by
    simp only [Heap.get?, Heap.size] at g1 ⊢
    exact (List.getElem?_eq_some_iff.1 g1).1
  refine ⟨H₁, a₁, H₂, a₂, r1, ?_, g1, f2 a₁ ha₁, f2⟩
  rw [runH_append, r1]; exact r2

/-- Value-level reading of the same clause: the sequence of snapshots produced for a history is a
prefix of the sequence produced for any extension of it (later events add snapshots, they do not
alter earlier ones). -/
theorem c19_old_snapshots_unchanged_values (w : ServiceUris) (h h' : List Event) :
    (snapshots w (h ++ h')).take (h.length + 1) = snapshots w h := by
  induction h generalizing w with
  | nil => cases h' <;> rfl
  | cons e r ih => simp only [List.cons_append, snapshots, List.length_cons, List.take_succ_cons, ih]

/-! ## Host selection

`es` is the multiset of announced (host, weight) pairs of the snapshot (`iterSeq`), `env k` the
nondeterminism consumed by the `k`-th call of `filterAndChooseHost`; `Draw.Valid es` says each
`range` visits every entry once in some order and `0 ≤ p/q < 1`. -/

/-- `chooseHost` amounts to one call of `filterAndChooseHost`: with the all-pass filter when no
priorities are configured (nil or empty), with the filter "scheme = the highest-priority scheme
for which any host is announced" otherwise; and it returns nil when no such scheme exists. -/
theorem c19_choose_reduces (es : List Entry) (env : Nat → Draw) (hv : ∀ k, (env k).Valid es)
    (prio : List Bytes) :
    (prio = [] ∧ chooseHost prio env = filterAndChooseHost (fun _ => true) (env 0)) ∨
    (prio ≠ [] ∧ Spec.topScheme prio es = none ∧ chooseHost prio env = none) ∨
    (prio ≠ [] ∧ ∃ s j, Spec.topScheme prio es = some s ∧
      chooseHost prio env = filterAndChooseHost (fun h => h.scheme == s) (env j)) := by
  cases prio with
  | nil => exact Or.inl ⟨rfl, rfl⟩
  | cons s0 rest =>
    obtain ⟨j, hj⟩ := chooseHostFrom_eq es env hv (s0 :: rest) 0
    have hch : chooseHost (s0 :: rest) env = chooseHostFrom env (s0 :: rest) 0 := rfl
    rw [hch, hj]
    cases Spec.topScheme (s0 :: rest) es with
    | none => exact Or.inr (Or.inl ⟨List.cons_ne_nil _ _, rfl, rfl⟩)
    | some s => exact Or.inr (Or.inr ⟨List.cons_ne_nil _ _, s, j, rfl, rfl⟩)

/-- Selection only ever returns an eligible announced host: an announced host, of the top
scheme when priorities are configured. -/
theorem c19_chosen_is_eligible (es : List Entry) (env : Nat → Draw) (hv : ∀ k, (env k).Valid es)
    (prio : List Bytes) (h : Host) (hc : chooseHost prio env = some h) :
    ∃ w, (h, w) ∈ Spec.eligible prio es := by
  obtain ⟨f, j, hch, hel⟩ := chooseHost_eligible es env hv prio
  obtain ⟨w, hw, hf, _⟩ := filterAndChooseHost_some f es _ (hv j) h (hch ▸ hc)
  exact ⟨w, hel ▸ List.mem_filter.2 ⟨hw, hf⟩⟩

/-- Selection only ever returns an announced host. -/
theorem c19_chosen_is_announced (es : List Entry) (env : Nat → Draw) (hv : ∀ k, (env k).Valid es)
    (prio : List Bytes) (h : Host) (hc : chooseHost prio env = some h) : ∃ w, (h, w) ∈ es := by
  obtain ⟨f, j, hch, _⟩ := chooseHost_eligible es env hv prio
  obtain ⟨w, hw, _⟩ := filterAndChooseHost_some f es _ (hv j) h (hch ▸ hc)
  exact ⟨w, hw⟩

/-- With priorities configured, the returned host's scheme is the highest-priority scheme for
which any host is announced. -/
theorem c19_chosen_has_top_priority_scheme (es : List Entry) (env : Nat → Draw)
    (hv : ∀ k, (env k).Valid es) (prio : List Bytes) (hp : prio ≠ []) (h : Host)
    (hc : chooseHost prio env = some h) : Spec.topScheme prio es = some h.scheme := by
  obtain ⟨w, hw⟩ := c19_chosen_is_eligible es env hv prio h hc
  simp only [Spec.eligible, hp, if_false] at hw
  cases ht : Spec.topScheme prio es with
  | none => rw [ht] at hw; cases hw
  | some s =>
    rw [ht] at hw
    rw [← beq_iff_eq.1 (List.mem_filter.1 hw).2]

/-- An error (nil host) is reported exactly when no host is eligible. -/
theorem c19_none_iff_no_eligible (es : List Entry) (env : Nat → Draw) (hv : ∀ k, (env k).Valid es)
    (prio : List Bytes) : chooseHost prio env = none ↔ Spec.eligible prio es = [] := by
  obtain ⟨f, j, hch, hel⟩ := chooseHost_eligible es env hv prio
  rw [hch, hel, filterAndChooseHost_none_iff f es _ (hv j), List.filter_eq_nil_iff]
  exact forall_congr' fun e => forall_congr' fun _ => Bool.eq_false_iff

/-- "Never a zero-weight host while an eligible host with positive weight exists", at full
strength: whatever the iteration orders and whatever the draws (including `r = 0`), as soon as
some eligible entry has positive weight the returned host is returned through an eligible entry of
positive weight. (The loop passes over zero-weight hosts whenever the eligible total is positive;
a loop that does not would, at the draw `r = 0` with hosts `a` (weight 0), `b` (weight 1) iterated
in that order, return `a`.) -/
theorem c19_zero_weight_never_while_positive_exists (es : List Entry) (env : Nat → Draw)
    (prio : List Bytes) (h : Host) (hv : ∀ k, (env k).Valid es)
    (hex : ∃ e ∈ Spec.eligible prio es, 0 < e.2) (hc : chooseHost prio env = some h) :
    ∃ w, (h, w) ∈ Spec.eligible prio es ∧ 0 < w := by
  obtain ⟨f, j, hch, hel⟩ := chooseHost_eligible es env hv prio
  rw [hel] at hex ⊢
  obtain ⟨e, he, hepos⟩ := hex
  obtain ⟨hin, hfe⟩ := List.mem_filter.1 he
  obtain ⟨w, hw, hf, hwp⟩ := filterAndChooseHost_some f es _ (hv j) h (hch ▸ hc)
  exact ⟨w, List.mem_filter.2 ⟨hw, hf⟩, hwp ((totalWeight_pos_iff f es).2 ⟨e, hin, hfe, hepos⟩)⟩

/-- The as-written loop and its position-returning twin agree: the host returned is the one at
the position the twin reports. -/
theorem c19_choice_position_agrees (f : Host → Bool) (d : Draw) :
    filterAndChooseHost f d = (filterAndChooseIdx f d).bind (fun j => d.it2[j]?.map Prod.fst) :=
  filterAndChooseHost_eq_idx f d

/-- "In proportion to the weights", for whatever iteration orders the two passes use, when the
total eligible weight `T` is positive. With `S` the eligible weight visited before an entry
`(h, w)` in the second pass, that entry is the one returned iff it is eligible, `w > 0`, and
`r ≤ (S+w)/T` and either `S/T < r` — an interval of length `w/T` — or `S = 0` (no eligible entry of
positive weight comes before it; this is what admits the draw `r = 0`). Zero-weight entries are never
returned. Stated for the position-returning twin `filterAndChooseIdx`; `c19_choice_interval_host`
carries it over to `filterAndChooseHost`. -/
theorem c19_choice_interval (f : Host → Bool) (es : List Entry) (d : Draw) (hv : d.Valid es)
    (pre post : List Entry) (h : Host) (w : Nat) (hit : d.it2 = pre ++ (h, w) :: post)
    (hT : 0 < Spec.weightOf f es) :
    filterAndChooseIdx f d = some pre.length ↔
      (f h = true ∧ 0 < w ∧ d.p * Spec.weightOf f es ≤ d.q * (Spec.weightOf f pre + w) ∧
        (d.q * Spec.weightOf f pre < d.p * Spec.weightOf f es ∨ Spec.weightOf f pre = 0)) := by
  rw [filterAndChooseIdx_at f es d hv pre post (h, w) hit, totalWeight_eq_weightOf f es, decide_eq_true hT,
    visits_skipZero, ← totalWeight_eq_zero_iff, totalWeight_eq_weightOf, and_assoc]

/-- The degenerate case: all eligible weights are 0 (`T = 0`). Nothing is passed over and the
first eligible entry in the second pass's iteration order is returned. -/
theorem c19_choice_degenerate (f : Host → Bool) (es : List Entry) (d : Draw) (hv : d.Valid es)
    (pre post : List Entry) (h : Host) (w : Nat) (hit : d.it2 = pre ++ (h, w) :: post)
    (hzero : Spec.weightOf f es = 0) :
    filterAndChooseIdx f d = some pre.length ↔ (f h = true ∧ ∀ e ∈ pre, f e.1 = false) := by
  rw [filterAndChooseIdx_at f es d hv pre post (h, w) hit, totalWeight_eq_weightOf f es, hzero,
    decide_eq_false (Nat.lt_irrefl 0)]
  simp only [visits_noSkip, Nat.mul_zero, Nat.zero_le, Nat.not_lt_zero, true_and, false_or]

/-- The interval law stated for the as-written function, for a host that is announced once:
`filterAndChooseHost` returns `h` iff `h` is eligible with positive weight and the draw falls into
`h`'s interval. -/
theorem c19_choice_interval_host (f : Host → Bool) (es : List Entry) (d : Draw) (hv : d.Valid es)
    (pre post : List Entry) (h : Host) (w : Nat) (hit : d.it2 = pre ++ (h, w) :: post)
    (huniq : ∀ e ∈ pre ++ post, e.1 ≠ h) (hT : 0 < Spec.weightOf f es) :
    filterAndChooseHost f d = some h ↔
      (f h = true ∧ 0 < w ∧ d.p * Spec.weightOf f es ≤ d.q * (Spec.weightOf f pre + w) ∧
        (d.q * Spec.weightOf f pre < d.p * Spec.weightOf f es ∨ Spec.weightOf f pre = 0)) := by
  rw [← c19_choice_interval f es d hv pre post h w hit hT, c19_choice_position_agrees,
    Option.bind_eq_some_iff, hit]
  simp only [getElem?_split_unique pre post h w huniq, exists_eq_right]

section Examples
def sA : Bytes := [104, 116, 116, 112, 115]   -- "https"
def sB : Bytes := [104, 116, 116, 112]        -- "http"
def hA1 : Host := ⟨sA, [97, 49]⟩
def hA2 : Host := ⟨sA, [97, 50]⟩
def hB1 : Host := ⟨sB, [98, 49]⟩
def zkEx : Bytes := [47, 117]                 -- "/u"
def n1 : Bytes := [47, 120]                   -- "/x"
def n2 : Bytes := [47, 121]                   -- "/y"
def uA : Uri := ⟨[(hA1, 1), (hA2, 3)]⟩
def uB : Uri := ⟨[(hB1, 2)]⟩
/-- add x, add y, malformed x, weight-less y, root event, delete y, change x -/
def histEx : List Event :=
  [⟨zkEx ++ n1, some (.uri uA)⟩, ⟨zkEx ++ n2, some (.uri uB)⟩, ⟨zkEx ++ n1, some .malformed⟩,
   ⟨zkEx ++ n2, some (.uri ⟨[]⟩)⟩, ⟨zkEx, some (.uri uB)⟩, ⟨zkEx ++ n2, none⟩,
   ⟨zkEx ++ n1, some (.uri uB)⟩]

example : (runUpdates (ServiceUris.init zkEx) histEx).uris = [(n1, uB)] := by decide +kernel
example : (runUpdates (ServiceUris.init zkEx) (histEx.take 5)).uris = [(n1, uA), (n2, uB)] := by decide +kernel
example : Spec.lastValid n1 (Spec.readHistory zkEx histEx) = some uB := by decide +kernel
example : Spec.lastValid n2 (Spec.readHistory zkEx (histEx.take 5)) = some uB := by decide +kernel
example : Spec.lastValid n2 (Spec.readHistory zkEx histEx) = none := by decide +kernel
/-- the heap run allocates: three fresh cells for the three effective writes among the first five
events, and the initial cell is untouched -/
example : (runUpdatesH ⟨[ServiceUris.init zkEx]⟩ 0 (histEx.take 5)).map (fun r => (r.1.size, r.2, r.1.get? 0))
    = some (3, 2, some (ServiceUris.init zkEx)) := by decide +kernel

def esEx : List Entry := [(hA1, 1), (hA2, 3), (hB1, 2)]
def envEx (p q : Nat) : Nat → Draw := fun _ => ⟨esEx, [(hB1, 2), (hA2, 3), (hA1, 1)], p, q⟩
example : ∀ k, (envEx 1 2 k).Valid esEx := fun _ =>
  ⟨List.Perm.refl _, (by decide +kernel : List.Perm [(hB1, 2), (hA2, 3), (hA1, 1)] esEx), (by decide : 1 < 2)⟩
example : Spec.eligible [sB, sA] esEx = [(hB1, 2)] := by decide +kernel
example : Spec.eligible [sA, sB] esEx = [(hA1, 1), (hA2, 3)] := by decide +kernel
example : chooseHost [sA, sB] (envEx 1 2) = some hA2 := by decide +kernel   -- r·T = 2 ≤ 3
example : chooseHost [sA, sB] (envEx 7 8) = some hA1 := by decide +kernel   -- 3 < r·T = 3.5 ≤ 4
example : chooseHost [] (envEx 1 3) = some hB1 := by decide +kernel          -- r·T = 2 ≤ 2
example : chooseHost [[120]] (envEx 1 2) = none := by decide +kernel
example : Spec.eligible [[120]] esEx = [] := by decide +kernel
example : filterAndChooseIdx (fun h => h.scheme == sA) (envEx 7 8 0) = some 2 := by decide +kernel
/-- hypotheses and right-hand side of `c19_choice_interval_host` for `hA1` under `envEx 7 8`:
it is visited last, 3 of the 4 units of https weight come before it, and 3/4 < 7/8 ≤ 4/4 -/
example : 0 < Spec.weightOf (fun h => h.scheme == sA) esEx := by decide +kernel
example : (envEx 7 8 0).it2 = [(hB1, 2), (hA2, 3)] ++ (hA1, 1) :: [] := rfl
example : ∀ e ∈ [(hB1, 2), (hA2, 3)] ++ ([] : List Entry), e.1 ≠ hA1 := by decide +kernel
example : 8 * Spec.weightOf (fun h => h.scheme == sA) [(hB1, 2), (hA2, 3)] < 7 * Spec.weightOf (fun h => h.scheme == sA) esEx ∧
    7 * Spec.weightOf (fun h => h.scheme == sA) esEx ≤ 8 * (Spec.weightOf (fun h => h.scheme == sA) [(hB1, 2), (hA2, 3)] + 1) := by decide +kernel
example : filterAndChooseHost (fun h => h.scheme == sA) (envEx 7 8 0) = some hA1 := by decide +kernel
/-- at the draw `r = 0` the zero-weight host visited first is passed over -/
example : chooseHost [] (fun _ => ⟨[(hA1, 0), (hB1, 1)], [(hA1, 0), (hB1, 1)], 0, 1⟩) = some hB1 := by decide +kernel
example : chooseHost [] (fun _ => ⟨[(hA1, 0), (hB1, 1)], [(hA1, 0), (hB1, 1)], 1, 1000⟩) = some hB1 := by decide +kernel
/-- all eligible weights zero: a (zero-weight) host is still returned -/
example : chooseHost [sA] (fun _ => ⟨[(hA1, 0), (hB1, 1)], [(hA1, 0), (hB1, 1)], 1, 2⟩) = some hA1 := by decide +kernel
end Examples

end Restli.D2
