import Restli.Proofs.GenEqualsFuel
/-! # C10 — Equals / hash contract

Two levels. First the hand-written library the generated code calls — `fnv1a/hasher.go`
(`Model/Fnv.lean`) and `restli/equals/*.go` (`Model/Equals.lean`) — for **both** module generations
(the files are identical; the hasher constants come from `Restli.Gen`/`Restli.GenRoot` through
`Fnv.Params`, and every theorem holds for all `Params`): the container helpers are generic in the
element equality `eq` and the hasher, and take the element laws as *membership-restricted*
hypotheses. Then (`c10_generated_*`) `Equals` / `ComputeHash` of schema-derived types
(`Model/GenEquals.lean`): every schema, every type, every nesting depth, where those hypotheses are
discharged by the induction hypothesis about sub-values.

Guards. Only `Prim.nanFree` (NaN ≠ NaN, so Equals is not reflexive on NaN — by IEEE, not a
defect). `+0 == −0`, and `AddFloat32/64` normalise zero before hashing (`fix: hash -0.0 like +0.0`
in the repository), so `c10_prim_*_equal_implies_same_hash` need no guard on zero signs. -/
namespace Restli.Equals
open Restli Restli.EqualsSpec Restli.Fnv

/-- The hash of a map does not depend on the order in which the runtime iterates over it: any
permutation of the entries gives the same `AddMap` result, for every hasher and start value. -/
theorem c10_addMap_perm_invariant {α : Type} (P : Params) (hasher : Hash → α → Hash) (h : Hash)
    (m m' : List (Bytes × α)) (hp : m.Perm m') : addMap P hasher h m = addMap P hasher h m' :=
  addMap_eq_of_perm P hasher h hp

/-- A hash is a function of the value alone. In the model this is true *by construction* (the
hash functions are Lean functions of the value and never receive an address, a clock or a seed),
so the statement is trivial; the content is in the correspondence run, which compares hash
*values* computed by the real code in different processes and on fresh copies with the model.
Stated for two pointers with different addresses and the same pointee. -/
theorem c10_hash_pure {α : Type} (hasher : Hash → α → Hash) (h : Hash) (p q : Ptr α)
    (hv : p.val = q.val) : addOpt hasher h (some p.val) = addOpt hasher h (some q.val) := by
  rw [hv]

/-- `GenericArray` is reflexive on sequences whose elements equal themselves (no NaN). -/
theorem c10_array_equals_refl {α : Type} (eq : α → α → Bool) (l : List α)
    (h : ∀ a ∈ l, eq a a = true) : genericArray eq l l = true :=
  (genericArray_iff eq l l).2 (ArrRel.refl_on h)

/-- `GenericArray` is symmetric when the element equality is (on the elements involved). -/
theorem c10_array_equals_symm {α : Type} (eq : α → α → Bool) (l r : List α)
    (hs : ∀ a ∈ l, ∀ b ∈ r, eq a b = true → eq b a = true)
    (h : genericArray eq l r = true) : genericArray eq r l = true :=
  (genericArray_iff eq r l).2 (((genericArray_iff eq l r).1 h).symm_on hs)

/-- `GenericArray` is transitive when the element equality is (on the elements involved). -/
theorem c10_array_equals_trans {α : Type} (eq : α → α → Bool) (l m r : List α)
    (ht : ∀ a ∈ l, ∀ b ∈ m, ∀ c ∈ r, eq a b = true → eq b c = true → eq a c = true)
    (h₁ : genericArray eq l m = true) (h₂ : genericArray eq m r = true) :
    genericArray eq l r = true :=
  (genericArray_iff eq l r).2
    (((genericArray_iff eq l m).1 h₁).trans_on ((genericArray_iff eq m r).1 h₂) ht)

/-- `GenericMap` is reflexive on maps whose values equal themselves. -/
theorem c10_map_equals_refl {α : Type} (eq : α → α → Bool) (m : List (Bytes × α))
    (hn : KeysNodup m) (h : ∀ kv ∈ m, eq kv.2 kv.2 = true) : genericMap eq m m = true :=
  (genericMap_iff eq m m hn hn).2 (MapRel.refl_on h)

/-- `GenericMap` is symmetric (this needs the pigeonhole argument: the code only checks
`len(left) == len(right)` and `left ⊆ right`). -/
theorem c10_map_equals_symm {α : Type} (eq : α → α → Bool) (l r : List (Bytes × α))
    (hl : KeysNodup l) (hr : KeysNodup r)
    (hs : ∀ a ∈ l, ∀ b ∈ r, eq a.2 b.2 = true → eq b.2 a.2 = true)
    (h : genericMap eq l r = true) : genericMap eq r l = true :=
  (genericMap_iff eq r l hr hl).2 (((genericMap_iff eq l r hl hr).1 h).symm_on hs)

theorem c10_map_equals_trans {α : Type} (eq : α → α → Bool) (l m r : List (Bytes × α))
    (hl : KeysNodup l) (hm : KeysNodup m) (hr : KeysNodup r)
    (ht : ∀ a ∈ l, ∀ b ∈ m, ∀ c ∈ r, eq a.2 b.2 = true → eq b.2 c.2 = true → eq a.2 c.2 = true)
    (h₁ : genericMap eq l m = true) (h₂ : genericMap eq m r = true) :
    genericMap eq l r = true :=
  (genericMap_iff eq l r hl hr).2
    (((genericMap_iff eq l m hl hm).1 h₁).trans_on ((genericMap_iff eq m r hm hr).1 h₂) ht)

/-- The verdict of `GenericMap` is the same for every iteration / insertion order of either map. -/
theorem c10_map_equals_perm_invariant {α : Type} (eq : α → α → Bool)
    (l l' r r' : List (Bytes × α)) (hl : l.Perm l') (hr : r.Perm r')
    (hnl : KeysNodup l) (hnr : KeysNodup r) : genericMap eq l r = genericMap eq l' r' :=
  Bool.eq_iff_iff.2 <|
    (genericMap_iff eq l r hnl hnr).trans <|
      Iff.trans ⟨MapRel.perm hl hr, MapRel.perm hl.symm hr.symm⟩
        (genericMap_iff eq l' r' ((hl.map Prod.fst).nodup hnl) ((hr.map Prod.fst).nodup hnr)).symm

/-- `GenericPointer` is reflexive **unconditionally**: identical pointers are equal without
`equals` being called (so a pointer to NaN equals itself, but not a copy of itself). -/
theorem c10_pointer_equals_refl {α : Type} (eq : α → α → Bool) (p : Option (Ptr α)) :
    genericPointer eq p p = true :=
  match p with
  | none => rfl
  | some a => (genericPointer_some eq a a).2 (.inl rfl)

/-- `GenericPointer` is symmetric when the pointee equality is. -/
theorem c10_pointer_equals_symm {α : Type} (eq : α → α → Bool) (p q : Option (Ptr α))
    (hs : ∀ a ∈ p, ∀ b ∈ q, eq a.val b.val = true → eq b.val a.val = true)
    (h : genericPointer eq p q = true) : genericPointer eq q p = true := by
  cases p with
  | none =>
    cases q with
    | none => rfl
    | some _ => cases h
  | some a =>
    cases q with
    | none => cases h
    | some b =>
      exact (genericPointer_some eq b a).2 (((genericPointer_some eq a b).1 h).imp Eq.symm (hs a rfl b rfl))

/-- `GenericPointer` is transitive when the pointee equality is; pointers into one heap
(`Coherent`: same address ⇒ same pointee). -/
theorem c10_pointer_equals_trans {α : Type} (eq : α → α → Bool) (p q r : Option (Ptr α))
    (hpq : ∀ a ∈ p, ∀ b ∈ q, Ptr.Coherent a b) (hqr : ∀ b ∈ q, ∀ c ∈ r, Ptr.Coherent b c)
    (ht : ∀ a ∈ p, ∀ b ∈ q, ∀ c ∈ r, eq a.val b.val = true → eq b.val c.val = true →
      eq a.val c.val = true)
    (h₁ : genericPointer eq p q = true) (h₂ : genericPointer eq q r = true) :
    genericPointer eq p r = true := by
  cases p with
  | none =>
    cases q with
    | none => exact h₂
    | some _ => cases h₁
  | some a =>
    cases q with
    | none => cases h₁
    | some b =>
      cases r with
      | none => cases h₂
      | some c =>
        rw [genericPointer_some] at h₁ h₂ ⊢
        rcases h₁ with hab | e₁ <;> rcases h₂ with hbc | e₂
        · exact .inl (hab.trans hbc)
        · exact .inr (hpq a rfl b rfl hab ▸ e₂)
        · exact .inr (hqr b rfl c rfl hbc ▸ e₁)
        · exact .inr (ht a rfl b rfl c rfl e₁ e₂)
/-- With a reflexive pointee equality the address shortcut is invisible: `GenericPointer` is
"both nil, or both non-nil and equal pointees". -/
theorem c10_pointer_equals_iff_presence_and_value {α : Type} (eq : α → α → Bool)
    (p q : Option (Ptr α)) (hc : ∀ a ∈ p, ∀ b ∈ q, Ptr.Coherent a b)
    (hr : ∀ a ∈ p, eq a.val a.val = true) :
    genericPointer eq p q = true ↔ OptRel eq (p.map Ptr.val) (q.map Ptr.val) := by
  rw [genericPointer_eq_optEq eq p q hc hr, optEq_iff]

/-- nil and empty collections are Equal — arrays, maps and byte strings — and hash alike;
whereas a nil *pointer* and a pointer to an empty collection differ (optional presence). This is
what the helpers really do (confirmed on the real code by the harness). -/
theorem c10_nil_empty_equal {α : Type} (eq : α → α → Bool) (P : Params) (hasher : Hash → α → Hash)
    (h : Hash) (addr : Nat) :
    objectArray eq .nil (.mk []) = true ∧ objectArray eq (.mk []) .nil = true ∧
    objectMap eq .nil (.mk []) = true ∧ objectMap eq (.mk []) .nil = true ∧
    bytes .nil (.mk []) = true ∧ bytes (.mk []) .nil = true ∧
    addArray hasher h (GoSlice.nil : GoSlice α).elems = addArray hasher h (GoSlice.mk []).elems ∧
    addMap P hasher h (GoMap.nil : GoMap α).elems = addMap P hasher h (GoMap.mk []).elems ∧
    addBytes P h (GoSlice.nil : GoSlice UInt8).elems = addBytes P h (GoSlice.mk []).elems ∧
    genericArrayPointer eq none (some ⟨addr, .mk []⟩) = false ∧
    genericMapPointer eq none (some ⟨addr, .mk []⟩) = false :=
  -- `nil` and `mk []` have the same `elems`, the only thing the helpers look at
  ⟨rfl, rfl, rfl, rfl, rfl, rfl, rfl, rfl, rfl, rfl, rfl⟩

/-- `GenericArray` holds iff the two sequences have the same length and are equal at every
position — a difference in any element, or in length, is seen. Never panics. -/
theorem c10_array_equals_iff_pointwise {α : Type} (eq : α → α → Bool) (l r : List α) :
    (genericArray eq l r = true ↔ ArrRel eq l r) ∧
    genericArrayP eq l r = some (genericArray eq l r) :=
  ⟨genericArray_iff eq l r, genericArrayP_eq eq l r⟩

/-- `GenericMap` holds iff the two maps have the same key set and equal values under every key. -/
theorem c10_map_equals_iff_same_keys_equal_values {α : Type} (eq : α → α → Bool)
    (l r : List (Bytes × α)) (hl : KeysNodup l) (hr : KeysNodup r) :
    genericMap eq l r = true ↔ MapRel eq l r :=
  genericMap_iff eq l r hl hr

/-- `equals.Bytes` is byte-sequence identity. -/
theorem c10_bytes_equals_iff (l r : GoSlice UInt8) : bytes l r = true ↔ l.elems = r.elems := by
  simp [bytes, bytesEq]

/-- Go `==` on the comparable primitives is an equivalence on NaN-free values. -/
theorem c10_prim_eq_equivalence :
    (∀ a : Prim, a.nanFree = true → Prim.eq a a = true) ∧
    (∀ a b : Prim, Prim.eq a b = Prim.eq b a) ∧
    (∀ a b c : Prim, Prim.eq a b = true → Prim.eq b c = true → Prim.eq a c = true) :=
  ⟨Prim.eq_refl, Prim.eq_symm, Prim.eq_trans⟩

/-- Equal arrays hash alike whenever Equal elements do (`AddArray` with any hasher). -/
theorem c10_array_equal_implies_same_hash {α : Type} (eq : α → α → Bool) (hasher : Hash → α → Hash)
    (l r : List α) (hc : ∀ a ∈ l, ∀ b ∈ r, eq a b = true → ∀ h, hasher h a = hasher h b)
    (h : genericArray eq l r = true) (h0 : Hash) : addArray hasher h0 l = addArray hasher h0 r :=
  ((genericArray_iff eq l r).1 h).addArray_eq hasher hc h0

/-- `ObjectArray` + `AddHashableArray`: Equal arrays of hashable objects hash alike whenever
Equal objects have equal `ComputeHash`. -/
theorem c10_hashable_array_equal_implies_same_hash {α : Type} (P : Params) (eq : α → α → Bool)
    (computeHash : α → Hash) (l r : List α)
    (hc : ∀ a ∈ l, ∀ b ∈ r, eq a b = true → computeHash a = computeHash b)
    (h : genericArray eq l r = true) (h0 : Hash) :
    addHashableArray P computeHash h0 l = addHashableArray P computeHash h0 r :=
  c10_array_equal_implies_same_hash eq _ l r (fun a ha b hb e h => by rw [hc a ha b hb e]) h h0

/-- Equal maps hash alike whenever Equal values do — in whatever order either map is iterated. -/
theorem c10_map_equal_implies_same_hash {α : Type} (P : Params) (eq : α → α → Bool)
    (hasher : Hash → α → Hash) (l r : List (Bytes × α)) (hl : KeysNodup l) (hr : KeysNodup r)
    (hc : ∀ a ∈ l, ∀ b ∈ r, eq a.2 b.2 = true → ∀ h, hasher h a.2 = hasher h b.2)
    (h : genericMap eq l r = true) (h0 : Hash) : addMap P hasher h0 l = addMap P hasher h0 r :=
  ((genericMap_iff eq l r hl hr).1 h).addMap_eq hl hr P hasher hc h0

/-- `ObjectMap` + `AddHashableMap`. -/
theorem c10_hashable_map_equal_implies_same_hash {α : Type} (P : Params) (eq : α → α → Bool)
    (computeHash : α → Hash) (l r : List (Bytes × α)) (hl : KeysNodup l) (hr : KeysNodup r)
    (hc : ∀ a ∈ l, ∀ b ∈ r, eq a.2 b.2 = true → computeHash a.2 = computeHash b.2)
    (h : genericMap eq l r = true) (h0 : Hash) :
    addHashableMap P computeHash h0 l = addHashableMap P computeHash h0 r :=
  c10_map_equal_implies_same_hash P eq _ l r hl hr (fun a ha b hb e h => by rw [hc a ha b hb e]) h h0

/-- `equals.Bytes` + `AddBytes`. -/
theorem c10_bytes_equal_implies_same_hash (P : Params) (l r : GoSlice UInt8) (h : bytes l r = true)
    (h0 : Hash) : addBytes P h0 l.elems = addBytes P h0 r.elems := by
  rw [(c10_bytes_equals_iff l r).1 h]

/-- Equal optional (pointer) fields hash alike: both skipped when nil, pointee hashed otherwise. -/
theorem c10_pointer_equal_implies_same_hash {α : Type} (eq : α → α → Bool) (hasher : Hash → α → Hash)
    (p q : Option (Ptr α)) (hcoh : ∀ a ∈ p, ∀ b ∈ q, Ptr.Coherent a b)
    (hc : ∀ a ∈ p, ∀ b ∈ q, eq a.val b.val = true → ∀ h, hasher h a.val = hasher h b.val)
    (h : genericPointer eq p q = true) (h0 : Hash) :
    addOpt hasher h0 (p.map Ptr.val) = addOpt hasher h0 (q.map Ptr.val) := by
  cases p with
  | none =>
    cases q with
    | none => rfl
    | some _ => cases h
  | some a =>
    cases q with
    | none => cases h
    | some b =>
      exact ((genericPointer_some eq a b).1 h).elim (fun hab => congrArg (hasher h0) (hcoh a rfl b rfl hab))
        (fun e => hc a rfl b rfl e h0)

/-- Go `==`-equal primitives hash alike into any running hash: ints, bools and strings because
they are identical, floats because `AddFloat32/64` normalise `−0` to `+0` before taking the bits
(and NaN is `==` to nothing). This is the element-level `hash_congr` of the comparable types. -/
theorem c10_prim_equal_implies_same_hash (P : Params) (a b : Prim) (h : Prim.eq a b = true)
    (h0 : Hash) : Prim.hashInto P h0 a = Prim.hashInto P h0 b := by
  rcases Prim.eq_cases h with rfl | ⟨x, y, rfl, rfl, e⟩ | ⟨x, y, rfl, rfl, e⟩
  · rfl
  · exact congrArg (addUint32 P h0) ((floatEq32_iff x y).1 e).2.2
  · exact congrArg (addUint64 P h0) ((floatEq64_iff x y).1 e).2.2

/-- `Comparable*`-Equal arrays of primitives hash alike (`AddArray`
with the primitive hasher), for all hasher constants — `[+0.0]` and `[−0.0]` included. -/
theorem c10_prim_array_equal_implies_same_hash (P : Params) (l r : List Prim) (h0 : Hash)
    (h : genericArray Prim.eq l r = true) :
    addArray (Prim.hashInto P) h0 l = addArray (Prim.hashInto P) h0 r :=
  c10_array_equal_implies_same_hash Prim.eq (Prim.hashInto P) l r
    (fun a _ b _ he h => c10_prim_equal_implies_same_hash P a b he h) h h0

/-- `ComparableMap`-Equal maps of primitives hash alike, `+0`/`−0` values included. -/
theorem c10_prim_map_equal_implies_same_hash (P : Params) (l r : List (Bytes × Prim)) (h0 : Hash)
    (hl : KeysNodup l) (hr : KeysNodup r) (h : genericMap Prim.eq l r = true) :
    addMap P (Prim.hashInto P) h0 l = addMap P (Prim.hashInto P) h0 r :=
  c10_map_equal_implies_same_hash P Prim.eq (Prim.hashInto P) l r hl hr
    (fun a _ b _ he h => c10_prim_equal_implies_same_hash P a.2 b.2 he h) h h0

/-- `ComparablePointer`-Equal optional primitives hash alike, `+0`/`−0` included. -/
theorem c10_prim_pointer_equal_implies_same_hash (P : Params) (p q : Option (Ptr Prim)) (h0 : Hash)
    (hcoh : ∀ a ∈ p, ∀ b ∈ q, Ptr.Coherent a b) (h : genericPointer Prim.eq p q = true) :
    addOpt (Prim.hashInto P) h0 (p.map Ptr.val) = addOpt (Prim.hashInto P) h0 (q.map Ptr.val) :=
  c10_pointer_equal_implies_same_hash Prim.eq (Prim.hashInto P) p q hcoh
    (fun a _ b _ he h => c10_prim_equal_implies_same_hash P a.val b.val he h) h h0

/-- a map in two insertion orders: Equal, same hash -/
example : genericMap Prim.eq [([97], .i32 1), ([98], .f64 0x3FF0000000000000)]
    [([98], .f64 0x3FF0000000000000), ([97], .i32 1)] = true := by decide
example : addMap paramsV2 (Prim.hashInto paramsV2) (newHash paramsV2)
      [([97], .i32 1), ([98], .i32 2), ([], .i32 0)]
    = addMap paramsV2 (Prim.hashInto paramsV2) (newHash paramsV2)
      [([], .i32 0), ([98], .i32 2), ([97], .i32 1)] := by decide
example : KeysNodup [([97], Prim.i32 1), ([98], .i32 2)] := by
  simp [KeysNodup]
/-- `[+0.0]` and `[−0.0]` are Equal and hash alike -/
example : genericArray Prim.eq [.f64 0] [.f64 0x8000000000000000] = true := by decide
example : addArray (Prim.hashInto paramsV2) (newHash paramsV2) [.f64 0]
    = addArray (Prim.hashInto paramsV2) (newHash paramsV2) [.f64 0x8000000000000000] := by decide
example : Prim.hashInto paramsV2 (newHash paramsV2) (.f32 0x80000000)
    = Prim.hashInto paramsV2 (newHash paramsV2) (.f32 0) := by decide
/-- NaN: not reflexive by value, reflexive by pointer identity -/
example : genericArray Prim.eq [.f64 0x7FF8000000000001] [.f64 0x7FF8000000000001] = false := by decide
example : genericPointer Prim.eq (some ⟨1, .f64 0x7FF8000000000001⟩) (some ⟨1, .f64 0x7FF8000000000001⟩) = true := by decide
example : genericPointer Prim.eq (some ⟨1, .f64 0x7FF8000000000001⟩) (some ⟨2, .f64 0x7FF8000000000001⟩) = false := by decide
/-- differing element / missing key / optional presence are seen -/
example : genericArray Prim.eq [.i32 1, .i32 2] [.i32 1, .i32 3] = false := by decide
example : genericMap Prim.eq [([97], .i32 1)] [([98], .i32 1)] = false := by decide
example : genericPointer Prim.eq none (some ⟨1, .i32 0⟩) = false := by decide

/-! ## The generated code: every schema, every type, every pair of values

`Codec.valueEq` / `Codec.hashInto` / `Codec.computeHash` are the generated `Equals` and
`ComputeHash` of schema-derived types (records with flattened includes, unions, enums, fixed,
typerefs, arrays and maps at any nesting), tied to the real generated code by the `geq`/`ghash`
driver ops. `MapsOK` says only that a Go map has distinct keys, at every depth. -/
section Generated
open Restli.Codec

/-- **Equals ⇒ same hash, for every schema**: two values the generated `Equals` accepts are added
to any running hash identically — any environment, any type, any depth of nesting. -/
theorem c10_generated_equal_implies_same_hash (env : Env) (P : Params) (f : Nat) (ty : Ty) (a b : Value)
    (ha : MapsOK a) (hb : MapsOK b) (h : valueEq env f ty a b = true) (h0 : Hash) :
    hashInto env P f ty h0 a = hashInto env P f ty h0 b :=
  valueEq_hashInto_congr env P f ty a b ha hb h h0

/-- the same at the method level: `a.Equals(b)` ⇒ `a.ComputeHash() == b.ComputeHash()` for every
named type of every schema -/
theorem c10_generated_equal_implies_same_ComputeHash (env : Env) (P : Params) (f : Nat) (n : TName)
    (a b : Value) (ha : MapsOK a) (hb : MapsOK b) (h : valueEq env (f + 1) (.ref n) a b = true) :
    computeHash env P f n a = computeHash env P f n b :=
  namedEqG_hash_congr env P (valueEq_hashInto_congr env P f) n a b ha hb h

theorem c10_generated_equals_symm (env : Env) (f : Nat) (ty : Ty) (a b : Value)
    (ha : MapsOK a) (hb : MapsOK b) : valueEq env f ty a b = valueEq env f ty b a := by
  apply Bool.eq_iff_iff.2
  exact ⟨valueEq_symm env f ty a b ha hb, valueEq_symm env f ty b a hb ha⟩

theorem c10_generated_equals_trans (env : Env) (f : Nat) (ty : Ty) (a b c : Value)
    (ha : MapsOK a) (hb : MapsOK b) (hc : MapsOK c)
    (h₁ : valueEq env f ty a b = true) (h₂ : valueEq env f ty b c = true) :
    valueEq env f ty a c = true :=
  valueEq_trans env f ty a b ha hb h₁ c hc h₂

/-- the use callers make of it: different `ComputeHash` results prove the values are not Equal -/
theorem c10_generated_hash_differs_implies_not_equal (env : Env) (P : Params) (f : Nat) (n : TName)
    (a b : Value) (ha : MapsOK a) (hb : MapsOK b)
    (h : computeHash env P f n a ≠ computeHash env P f n b) :
    valueEq env (f + 1) (.ref n) a b = false := by
  cases he : valueEq env (f + 1) (.ref n) a b with
  | false => rfl
  | true => exact absurd (c10_generated_equal_implies_same_ComputeHash env P f n a b ha hb he) h

/-- generated `Equals` is a partial equivalence: whatever is Equal to something is Equal to itself.
Plain reflexivity is false — a NaN field is not `==` itself in Go (`example` below) — and this is
the part of it that holds for every schema and value. -/
theorem c10_generated_equals_refl_on_domain (env : Env) (f : Nat) (ty : Ty) (a b : Value)
    (ha : MapsOK a) (hb : MapsOK b) (h : valueEq env f ty a b = true) :
    valueEq env f ty a a = true ∧ valueEq env f ty b b = true :=
  ⟨valueEq_trans env f ty a b ha hb h a ha (valueEq_symm env f ty a b ha hb h),
   valueEq_trans env f ty b a hb ha (valueEq_symm env f ty a b ha hb h) b hb h⟩

/-- the counter-witness to plain reflexivity: a record holding a NaN is not Equal to itself -/
theorem c10_generated_equals_not_refl_cex :
    valueEq [("B", .record [] [⟨[120], .prim .f64, false, none⟩])] 3 (.ref "B")
      (.record [([120], .f64 0x7FF8000000000001)]) (.record [([120], .f64 0x7FF8000000000001)]) = false := by
  decide

/-- a pair the generated `Equals` accepts at some depth budget is accepted at every larger one (the
Go code has no budget at all; a rejection at a small budget may still turn into acceptance) -/
theorem c10_generated_equals_fuel_irrelevant (env : Env) (f g : Nat) (hfg : f ≤ g) (ty : Ty) (a b : Value)
    (ha : MapsOK a) (hb : MapsOK b) (h : valueEq env f ty a b = true) :
    valueEq env g ty a b = true :=
  eqStep_fuel_mono (fun _ _ _ => rfl) (valueEq_succ env) hfg ty a b ha hb h

/-- hence Equals at budget `f` ⇒ same hash at any budget `g ≥ f` -/
theorem c10_generated_equal_implies_same_hash_any_fuel (env : Env) (P : Params) (f g : Nat) (hfg : f ≤ g)
    (ty : Ty) (a b : Value) (ha : MapsOK a) (hb : MapsOK b) (h : valueEq env f ty a b = true) (h0 : Hash) :
    hashInto env P g ty h0 a = hashInto env P g ty h0 b :=
  valueEq_hashInto_congr env P g ty a b ha hb
    (c10_generated_equals_fuel_irrelevant env f g hfg ty a b ha hb h) h0

/-- a schema with an include, a union, an enum and a map of arrays of doubles -/
def exEnvG : Env :=
  [("E", .enum [[65], [66]]),
   ("U", .union false [([97], .prim .i32), ([98], .prim .str)]),
   ("B", .record [] [⟨[120], .prim .f32, false, none⟩]),
   ("R", .record ["B"] [⟨[114], .prim .i32, false, none⟩, ⟨[111], .prim .str, true, none⟩,
        ⟨[117], .ref "U", false, none⟩, ⟨[109], .map (.arr (.prim .f64)), false, none⟩,
        ⟨[101], .ref "E", false, none⟩])]
/-- two representations of one value: map entries in another order, `+0`/`−0` -/
def exA : Value :=
  .record [([120], .f32 0), ([114], .i32 (-5)), ([117], .union [([98], .str [40])]),
    ([109], .map [([122], .arr [.f64 0, .f64 1]), ([], .arr [])]), ([101], .enum 2)]
def exB : Value :=
  .record [([101], .enum 2), ([120], .f32 0x80000000), ([114], .i32 (-5)), ([117], .union [([98], .str [40])]),
    ([109], .map [([], .arr []), ([122], .arr [.f64 0x8000000000000000, .f64 1])])]
example : valueEq exEnvG 5 (.ref "R") exA exB = true := by decide
example : MapsOK exA ∧ MapsOK exB := by
  simp [exA, exB, MapsOK, MapsOKKvs, MapsOKList, KeysNodup]
example : computeHash exEnvG paramsV2 4 "R" exA = computeHash exEnvG paramsV2 4 "R" exB :=
  c10_generated_equal_implies_same_ComputeHash exEnvG paramsV2 4 "R" exA exB
    (by simp [exA, MapsOK, MapsOKKvs, MapsOKList, KeysNodup])
    (by simp [exB, MapsOK, MapsOKKvs, MapsOKList, KeysNodup]) (by decide)
example : valueEq exEnvG 9 (.ref "R") exA exB = true :=
  c10_generated_equals_fuel_irrelevant exEnvG 5 9 (by decide) _ exA exB
    (by simp [exA, MapsOK, MapsOKKvs, MapsOKList, KeysNodup])
    (by simp [exB, MapsOK, MapsOKKvs, MapsOKList, KeysNodup]) (by decide)
/-- and a differing nested element is seen -/
example : valueEq exEnvG 5 (.ref "R") exA
    (.record [([120], .f32 0), ([114], .i32 (-5)), ([117], .union [([98], .str [40])]),
      ([109], .map [([122], .arr [.f64 0, .f64 2]), ([], .arr [])]), ([101], .enum 2)]) = false := by decide

end Generated

end Restli.Equals
