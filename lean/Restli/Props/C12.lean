import Restli.Proofs.Identifier
import Restli.Proofs.SortKeys
/-! # C12 — code generation total, deterministic, compilable: the proved fragments

The property as a whole is decided by translation validation (harness `c12`: the real generator on a
grammar-generated family of manifests, byte comparison across fresh processes, `go build` + `go vet`).
What is *proved* here are the pure fragments the emitted names and emission order rest on:
`ExportedIdentifier` (model `Model/Identifier.lean`, tied to the Go function by the `exportid`
correspondence ops and by the regenerated literals `Gen.ident*`) and the sorted field order.
All statements are for every name / every field list, and for every parameter set satisfying the
decidable facts `Good` (both module generations satisfy them: `paramsV2_good`, `paramsRoot_good`). -/
namespace Restli.Ident
open Restli

/-- For every legal name — non-empty, over `[A-Za-z0-9_$]` — `ExportedIdentifier` returns (no panic) a
non-empty exported Go identifier: it starts with an upper-case letter and continues with letters, digits
and underscores only. -/
theorem c12_exportedIdentifier_valid (P : Params) (g : Good P) (s : Bytes) (hs : Legal P s) :
    ∃ o, exportedIdentifier P s = .ok o ∧ exportedWord o = true := by
  have hw := expand_word g hs
  exact ⟨_, exportedIdentifier_eq g hs, mangleDollarFree_exported g hw.1 hw.2⟩

/-- The same for the literals of the current v2 and root sources. -/
theorem c12_exportedIdentifier_valid_current (s : Bytes) :
    (Legal paramsV2 s → ∃ o, exportedIdentifier paramsV2 s = .ok o ∧ exportedWord o = true) ∧
    (Legal paramsRoot s → ∃ o, exportedIdentifier paramsRoot s = .ok o ∧ exportedWord o = true) :=
  ⟨c12_exportedIdentifier_valid _ paramsV2_good s, c12_exportedIdentifier_valid _ paramsRoot_good s⟩

/-- On ASCII input the function panics exactly when some character lies outside the alphabet
(`log.Panicf("Illegal identifier character …")`); it never answers `nonAscii` there. -/
theorem c12_exportedIdentifier_panics_iff (P : Params) (g : Good P) (s : Bytes)
    (hascii : ∀ c ∈ s, ¬ (128 ≤ c)) :
    (exportedIdentifier P s = .panic ↔ ∃ c ∈ s, identChar P c = false) ∧
      exportedIdentifier P s ≠ .nonAscii :=
  go_panic_iff g s true [] hascii

/-- Collision classes, complete: two legal names are mapped to the same identifier **iff**, once every
`$` is spelled out the way the function does (`expand`: `DOLLAR_` for a leading `$`, `_DOLLAR_` elsewhere),
the two spellings are equal, or differ only in the case of the first letter, or one is a digit-initial
name and the other the same name behind `_`, or one is letter-initial and spells out (up to the case of its
first letter) the prefix `Exported_` / `Exported` that the other, digit- or underscore-initial, receives. -/
theorem c12_exportedIdentifier_collision_classes (P : Params) (g : Good P) (a b : Bytes)
    (ha : Legal P a) (hb : Legal P b) :
    exportedIdentifier P a = exportedIdentifier P b ↔
      (expand P a = expand P b ∨ Cls P (expand P a) (expand P b) ∨ Cls P (expand P b) (expand P a)) := by
  rw [exportedIdentifier_eq g ha, exportedIdentifier_eq g hb]
  have wa := expand_word g ha
  have wb := expand_word g hb
  constructor
  · intro h
    exact cls_complete g wa.1 wb.1 wa.2 wb.2 (by injection h)
  · rintro (h | h | h)
    · rw [h]
    · rw [cls_sound g h]
    · rw [cls_sound g h]

/-- A name without `$` is its own spelling, so for `$`-free names the classes of
`c12_exportedIdentifier_collision_classes` speak about the names themselves. -/
theorem c12_expand_dollar_free (P : Params) (s : Bytes) (h : ∀ c ∈ s, c ≠ P.dollarChar) : expand P s = s := by
  cases s with
  | nil => rfl
  | cons c t =>
    rw [expand, if_neg (h c List.mem_cons_self), expandTail_id P t (List.forall_mem_cons.1 h).2]
    rfl

/-- Two `$`-free, letter-initial legal names that are mapped to the same identifier differ at most in the
case of the first letter (they need not be equal: `foo` / `Foo`). -/
theorem c12_exportedIdentifier_injective_on_letter_initial (P : Params) (g : Good P) (x y : UInt8)
    (s t : Bytes) (hx : isLetter x = true) (hy : isLetter y = true)
    (ha : Legal P (x :: s)) (hb : Legal P (y :: t))
    (hda : ∀ c ∈ x :: s, c ≠ P.dollarChar) (hdb : ∀ c ∈ y :: t, c ≠ P.dollarChar)
    (h : exportedIdentifier P (x :: s) = exportedIdentifier P (y :: t)) :
    s = t ∧ toUpper x = toUpper y := by
  rw [exportedIdentifier_eq g ha, exportedIdentifier_eq g hb, c12_expand_dollar_free P _ hda,
    c12_expand_dollar_free P _ hdb,
    mangleDollarFree_letter P s hx, mangleDollarFree_letter P t hy, Out.ok.injEq, List.cons.injEq] at h
  exact ⟨h.2, h.1⟩

/-! Witnesses of every class, on the literals of the current v2 sources (distinct names, same identifier). -/

/-- `foo` / `Foo` — first-letter case -/
theorem c12_collision_first_letter_case :
    exportedIdentifier paramsV2 [102, 111, 111] = exportedIdentifier paramsV2 [70, 111, 111] := by decide +kernel

/-- `1a` / `_1a` — leading digit vs. underscore + digit -/
theorem c12_collision_digit_underscore :
    exportedIdentifier paramsV2 [49, 97] = exportedIdentifier paramsV2 [95, 49, 97] := by decide +kernel

/-- `1a` / `exported_1a` — the digit prefix spelled out -/
theorem c12_collision_spelled_digit_prefix :
    exportedIdentifier paramsV2 [49, 97] =
      exportedIdentifier paramsV2 [101, 120, 112, 111, 114, 116, 101, 100, 95, 49, 97] := by decide +kernel

/-- `_x` / `Exported_x` — the underscore prefix spelled out -/
theorem c12_collision_spelled_underscore_prefix :
    exportedIdentifier paramsV2 [95, 120] =
      exportedIdentifier paramsV2 [69, 120, 112, 111, 114, 116, 101, 100, 95, 120] := by decide +kernel

/-- `a$b` / `a_DOLLAR_b` — `$` spelled out (equal spellings) -/
theorem c12_collision_dollar :
    exportedIdentifier paramsV2 [97, 36, 98] =
      exportedIdentifier paramsV2 [97, 95, 68, 79, 76, 76, 65, 82, 95, 98] := by decide +kernel

/-- `$a` / `dOLLAR_a` — leading `$`, and first-letter case on top -/
theorem c12_collision_leading_dollar :
    exportedIdentifier paramsV2 [36, 97] =
      exportedIdentifier paramsV2 [100, 79, 76, 76, 65, 82, 95, 97] := by decide +kernel

/-- Emission order is a function of the set of fields: sorting by name gives the same list for every
permutation of a field list with pairwise distinct names (`Record.SortedFields`, and likewise
`IdentifierSet.Range` over distinct full names). -/
theorem c12_sortedFields_perm_invariant {α : Type} (l₁ l₂ : List (Bytes × α)) (hp : l₁.Perm l₂)
    (hn : Codec.KeysNodup l₁) : sortedFields l₁ = sortedFields l₂ :=
  Codec.sortByKey_perm l₁ l₂ hp hn

/-- The sorted list has exactly the given fields and is strictly ascending by name. -/
theorem c12_sortedFields_sorted {α : Type} (l : List (Bytes × α)) (hn : Codec.KeysNodup l) :
    Codec.SortedKeys (sortedFields l) ∧ ∀ f, f ∈ sortedFields l ↔ f ∈ l :=
  ⟨Codec.sortByKey_sorted l hn, Codec.mem_sortByKey l⟩

/-! Non-vacuity: concrete inputs satisfy the hypotheses and exercise the non-trivial branches. -/

-- `$ref9` is legal and is mapped to `DOLLAR_ref9`
example : exportedIdentifier paramsV2 [36, 114, 101, 102, 57] = .ok [68, 79, 76, 76, 65, 82, 95, 114, 101, 102, 57] := by
  decide +kernel
example : Legal paramsV2 [36, 114, 101, 102, 57] := ⟨nofun, by decide +kernel⟩
-- `9_a$` ↦ `Exported_9_a_DOLLAR_`
example : exportedIdentifier paramsV2 [57, 95, 97, 36] =
    .ok [69, 120, 112, 111, 114, 116, 101, 100, 95, 57, 95, 97, 95, 68, 79, 76, 76, 65, 82, 95] := by decide +kernel
-- an illegal character panics, a non-ASCII byte is declined
example : exportedIdentifier paramsV2 [97, 45, 98] = .panic := by decide +kernel
example : exportedIdentifier paramsV2 [97, 195, 169] = .nonAscii := by decide +kernel
-- the witnesses above are pairs of different names
example : ([102, 111, 111] : Bytes) ≠ [70, 111, 111] := by decide +kernel
-- two different orders of three fields sort to the same list
example : sortedFields [([98], 1), ([97], 2), ([99], 3)] = sortedFields [([99], 3), ([98], 1), ([97], 2)] :=
  c12_sortedFields_perm_invariant _ _ (by decide +kernel) (by unfold Codec.KeysNodup; decide +kernel)

end Restli.Ident
