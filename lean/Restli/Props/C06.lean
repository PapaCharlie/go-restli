import Restli.Proofs.MissingSpec
import Restli.Proofs.AnyReader
import Restli.Proofs.QueryParams
/-! # C06 — required-field accounting and unknown-field tolerance

Every reader finishes a record through `finishRecord` (the model of `readRecord`'s epilogue in
reader.go + missing_fields.go): the statements here are about that shared function and about the
JSON reader's member loop, for every schema and document. The document-level statement ("the
reported set equals the set of absent-or-null required fields at any depth") is the last section
of this file; the harness also decides it on every run against an independently computed set. -/
namespace Restli.Codec

/-- the missing fields a record reports do not depend on the order in which its members
appeared in the document -/
theorem c06_missing_order_independent (tr : Tracker) (scope : List Seg) (fields : List Field)
    (seen₁ seen₂ m₀ : List Bytes) (hp : seen₁.Perm seen₂) :
    missingAfter tr scope fields seen₁ m₀ = missingAfter tr scope fields seen₂ m₀ := by
  simp only [missingAfter, remainingRequired, hp.contains_eq]

/-- exactly the required (non-optional, non-defaulted) fields that were not seen and are not
excluded are added, each under the full path of the enclosing scope; optional and defaulted
fields never are -/
theorem c06_reports_exactly_unseen_required (tr : Tracker) (scope : List Seg) (fields : List Field)
    (seen m₀ : List Bytes) (p : Bytes) :
    p ∈ (missingAfter tr scope fields seen m₀) ↔
      p ∈ m₀ ∨ ∃ f ∈ fields, f.optional = false ∧ f.dflt = none ∧ f.name ∉ seen ∧
        tr.check (scope ++ [.key f.name]) ≠ .yes ∧
        p = (let sc := scopeString scope; if sc.isEmpty then sc else sc ++ [46]) ++ f.name := by
  unfold missingAfter remainingRequired
  simp only [List.mem_append, List.mem_map, List.mem_filter, bne_iff_ne, ne_eq,
    Bool.not_eq_eq_eq_not, Bool.not_true, Field.optOrDefault, Bool.or_eq_false_iff,
    Option.isSome_eq_false_iff, Option.isNone_iff_eq_none, List.contains_eq_mem, decide_eq_false_iff_not]
  refine or_congr_right ⟨?_, ?_⟩
  · rintro ⟨_, ⟨⟨⟨f, ⟨hf, ho, hd⟩, rfl⟩, hns⟩, hx⟩, rfl⟩
    exact ⟨f, hf, ho, hd, hns, hx, rfl⟩
  · rintro ⟨f, hf, ho, hd, hns, hx, rfl⟩
    exact ⟨_, ⟨⟨⟨f, ⟨hf, ho, hd⟩, rfl⟩, hns⟩, hx⟩, rfl⟩

/-- at the top level the reader fails iff something is missing, and then with the whole list in
one error; nothing is reported when nothing is missing -/
theorem c06_top_level_single_error (env : Env) (tr : Tracker) (scope : List Seg)
    (fields own : List Field) (fs : List (Bytes × Value)) (seen m₀ : List Bytes)
    (hnp : finishPanics tr scope fields seen = false) :
    finishRecord env tr scope true fields own fs seen m₀ =
      if (missingAfter tr scope fields seen m₀).isEmpty
      then .ok (.record (populateDefaults own (fillRequired env fields fs))) []
      else .missingErr (missingAfter tr scope fields seen m₀) (.record (fillRequired env fields fs)) :=
  finishRecord_top

/-- below the top level a record never fails for missing fields: it passes them up -/
theorem c06_nested_never_fails (env : Env) (tr : Tracker) (scope : List Seg)
    (fields own : List Field) (fs : List (Bytes × Value)) (seen m₀ : List Bytes)
    (hnp : finishPanics tr scope fields seen = false) :
    finishRecord env tr scope false fields own fs seen m₀ =
      .ok (.record (populateDefaults own (fillRequired env fields fs))) (missingAfter tr scope fields seen m₀) :=
  finishRecord_nested

/-- the tree reader (JSON is one of its leaf semantics): an unknown member of any shape is skipped
without touching what was read so far or what follows -/
theorem c06_json_unknown_member_skipped (c : TCfg) (scope : List Seg) (fields : List Field)
    (acc : List (Bytes × Value)) (seen : List Bytes) (k : Bytes) (v : Json.JVal)
    (rest : List (Bytes × Json.JVal)) (hkey : c.sem.key k = some k) (hk : findField fields k = none)
    (hx : c.tracker.check (scope ++ [.key k]) = .no) :
    treeReadEntries c scope (.record fields) acc seen ((k, v) :: rest) =
      (match v with
       | .null => treeReadEntries c scope (.record fields) acc seen rest
       | _ => treeReadEntries c scope (.record fields) acc (seen ++ [k]) rest) := by
  by_cases hv : v = .null
  · subst hv
    simp only [treeReadEntries]
  · rw [treeReadEntries_cons c scope _ acc seen k v rest hv]
    simp only [hkey, hx, treeCallbackWith, hk, bindT, List.nil_append]
    cases v with
    | null => exact absurd rfl hv
    | _ => cases treeReadEntries c scope (.record fields) acc (seen ++ [k]) rest <;> rfl

/-- the tree reader, any leaf semantics: a null member counts as absent — it is skipped before the
callback and is not "seen" -/
theorem c06_json_null_member_is_absent (c : TCfg) (scope : List Seg) (mode : MapMode)
    (acc : List (Bytes × Value)) (seen : List Bytes) (k : Bytes) (rest : List (Bytes × Json.JVal)) :
    treeReadEntries c scope mode acc seen ((k, .null) :: rest) = treeReadEntries c scope mode acc seen rest := by
  simp [treeReadEntries]

/-! non-vacuity: a nested document with one field missing at depth, read through the JSON model -/
def envN : Env :=
  [("In", .record [] [{ name := [105], ty := .prim .i32, optional := false, dflt := none },
                      { name := [110], ty := .prim .str, optional := true, dflt := none }]),
   ("Out", .record [] [{ name := [120], ty := .ref "In", optional := false, dflt := none },
                       { name := [97], ty := .arr (.ref "In"), optional := false, dflt := none }])]
def cfgN : TCfg := { env := envN, tracker := { excl := .empty, ignore := 0 } }
-- {"a":[{"i":1},{"n":"q","u":[1]}],"x":{}}  →  missing a[1].i and x.i
unseal Strconv.digitsOfNat in
example : (match treeRead cfgN true [] (.ref "Out")
      (.obj [([97], .arr [.obj [([105], .num [49])], .obj [([110], .str [113]), ([117], .arr [.num [49]])]]), ([120], .obj [])]) with
    | .err (.missing ps _) => ps | _ => []) = [[97, 91, 49, 93, 46, 105], [120, 46, 105]] := by decide +kernel

/-! ## whole documents, any depth

`specMissing` (Proofs/MissingSpec.lean) is the specification: by recursion on the document, the
required fields each record along the way does not carry — absent, or present with a null value —
under the full scope (field names, map keys, `[i]` for array items), skipping unknown members, never
looking at a value. Nothing else about the reader (accumulators, repeated members, defaults,
zero values of missing required fields) appears in it. -/

/-- **every reader, every document, every schema**: whatever a value read below the top level
reports as missing is exactly the specification's list, in the specification's order -/
theorem c06_missing_is_exactly_the_spec (c : TCfg) (hc : SemClean c.sem) (t : Json.JVal) (scope : List Seg)
    (ty : Ty) (v : Value) (m : List Bytes) (h : treeRead c false scope ty t = .ok v m) :
    m = specMissing c scope ty t :=
  read_missing c hc t h

/-- … the JSON reader and the ROR2 readers are two instances (same code path after the leaves) -/
theorem c06_json_and_ror2_leaves_report_nothing (plus : Bool) : SemClean jsonSem ∧ SemClean (ror2Sem plus) :=
  ⟨jsonSem_leaf.clean, (ror2Sem_leaf plus).clean⟩

/-- … and the untyped-value reader (`any_reader.go`) is a third: its leaves report nothing either,
so on every Go value what it reports as missing is the specification's list for the value's tree -/
theorem c06_untyped_reader_reports_the_spec (env : Env) (tr : Tracker) (av : AnyVal) (scope : List Seg)
    (ty : Ty) (v : Value) (m : List Bytes)
    (h : treeRead { env := env, tracker := tr, sem := anySem } false scope ty (anyToTree false av) = .ok v m) :
    m = specMissing { env := env, tracker := tr, sem := anySem } scope ty (anyToTree false av) :=
  read_missing _ anySem_leaf.clean _ h

/-- **top level**: when the members decode, the outcome is decided by the specification's list:
empty ⇒ the value (own defaults filled), nothing reported; non-empty ⇒ one
missing-required-fields error carrying exactly that list and the partially filled value -/
theorem c06_top_level_outcome (c : TCfg) (hc : SemClean c.sem) (n : TName) (incs : List TName) (own : List Field)
    (hfind : c.env.find n = some (.record incs own)) (kvs : List (Bytes × Json.JVal))
    (r : List (Bytes × Value) × List Bytes) (m0 : List Bytes)
    (hent : treeReadEntries c [] (.record (allFields c.env (includeFuel c.env) n)) [] [] kvs = .ok r m0) :
    treeRead c true [] (.ref n) (.obj kvs) =
      (if specMissing c [] (.ref n) (.obj kvs) = [] then
        .ok (.record (populateDefaults own (fillRequired c.env (allFields c.env (includeFuel c.env) n) r.1))) []
       else .err (.missing (specMissing c [] (.ref n) (.obj kvs))
         (.record (fillRequired c.env (allFields c.env (includeFuel c.env) n) r.1)))) := by
  have hsp := entries_missing c hc kvs hent
  simp only [treeRead, specMissing_ref, hfind, hent, bindT, finishRecord_top, hsp.1, hsp.2, List.nil_append]
  generalize missingAfter _ _ _ _ _ = ms
  cases ms <;> rfl

/-- **the query-parameters reader** (`QueryParamsReader.ReadRecord` driving the generated
`UnmarshalField`, one ROR2 reader per parameter) on parameters whose values are renderings of
raw-token trees and whose names need no unescaping **is the tree reader, at top level, on the object
whose members are the parameters**: the fourth reader is an instance of the same reader too -/
theorem c06_query_reader_is_the_tree_reader (env : Env) (n : TName) (incs : List TName) (own : List Field)
    (hfind : env.find n = some (.record incs own)) (ps : List (Bytes × Json.JVal))
    (hps : ∀ e ∈ ps, RawWF e.2 ∧ PlainKey e.1) :
    decodeQueryParams env n (ps.map (fun e => (e.1, renderRaw e.2))) =
      liftT (treeRead (tcOf (qpCfg env)) true [] (.ref n) (.obj ps)) qpEnd := by
  have hfind' : (tcOf (qpCfg env)).env.find n = some (.record incs own) := hfind
  simp only [decodeQueryParams, hfind, treeRead, hfind']
  rw [qpLoop_eq_tree env _ ps hps [] [] []]
  have henv : (tcOf (qpCfg env)).env = env := rfl
  have htrk : (tcOf (qpCfg env)).tracker = { excl := .empty, ignore := 0 } := rfl
  simp only [henv, htrk, finishRecord_top]
  generalize treeReadEntries _ _ _ _ _ ps = res
  cases res with
  | ok r m =>
    -- at the top level the record is returned only when nothing is missing
    simp only [bindT, List.nil_append]
    cases (missingAfter _ _ _ r.2 m).isEmpty <;> simp [liftT, qpEnd]
  | _ => simp [liftT, bindT]

/-- … hence its outcome, when the parameters decode, is the specification's: nothing missing ⇒ the
record (own defaults filled); otherwise ONE error carrying exactly the specification's list — nested
paths start with the parameter's name — and the partially filled record -/
theorem c06_query_reader_outcome (env : Env) (n : TName) (incs : List TName) (own : List Field)
    (hfind : env.find n = some (.record incs own)) (ps : List (Bytes × Json.JVal))
    (hps : ∀ e ∈ ps, RawWF e.2 ∧ PlainKey e.1)
    (r : List (Bytes × Value) × List Bytes) (m0 : List Bytes)
    (hent : treeReadEntries (tcOf (qpCfg env)) [] (.record (allFields env (includeFuel env) n)) [] [] ps = .ok r m0) :
    decodeQueryParams env n (ps.map (fun e => (e.1, renderRaw e.2))) =
      (if specMissing (tcOf (qpCfg env)) [] (.ref n) (.obj ps) = [] then
        .ok (.record (populateDefaults own (fillRequired env (allFields env (includeFuel env) n) r.1))) qpEnd
       else .err (.missing (specMissing (tcOf (qpCfg env)) [] (.ref n) (.obj ps))
         (.record (fillRequired env (allFields env (includeFuel env) n) r.1)))) := by
  rw [c06_query_reader_is_the_tree_reader env n incs own hfind ps hps,
    c06_top_level_outcome (tcOf (qpCfg env)) (ror2Sem_leaf true).clean n incs own hfind ps r m0 hent]
  split <;> simp [liftT, qpEnd, tcOf, qpCfg]

/-- **the ROR2 cursor reader reports the same**: on the rendering of any well-formed raw-token tree,
at any position inside a document, what it adds to the missing list is the specification's list
for that tree (the bridge theorem composed with the above) -/
theorem c06_ror2_cursor_reader_reports_the_spec (rc : RCfg) (t : Json.JVal) (hw : RawWF t) (fuel : Nat)
    (scope : List Seg) (ty : Ty) (d : UInt8) (rest : Bytes) (ms : List Bytes) (hd : isDelim d = true)
    (hf : needT t ≤ fuel) (v : Value) (s' : RS)
    (h : readTy rc fuel scope ty { rest := renderRaw t ++ d :: rest, start := false, missing := ms } = .ok v s') :
    s'.missing = ms ++ specMissing (tcOf rc) scope ty t := by
  rw [bridge rc t hw fuel scope ty d rest ms hd hf] at h
  cases hr : treeRead (tcOf rc) false scope ty t with
  | ok v' m =>
    rw [hr] at h
    cases h
    rw [read_missing (tcOf rc) (ror2Sem_leaf rc.plus).clean t hr]
  | _ => rw [hr] at h; cases h

/-! non-vacuity: the nested example above against the specification -/
unseal Strconv.digitsOfNat in
example : specMissing cfgN [] (.ref "Out")
    (.obj [([97], .arr [.obj [([105], .num [49])], .obj [([110], .str [113]), ([117], .arr [.num [49]])]]), ([120], .obj [])])
    = [[97, 91, 49, 93, 46, 105], [120, 46, 105]] := by decide +kernel

end Restli.Codec
