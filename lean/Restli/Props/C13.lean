import Restli.Proofs.JsonRoundTrip
import Restli.Proofs.JsonDefaults
/-! # C13 — schema default values

`populateDefaults` is the model of the generated `populateLocalDefaultValues`, which every
generated `UnmarshalRestLi` calls after `ReadRecord` whatever the reader (JSON, ROR2, untyped):
the same function appears in `readTy` and in `treeRead`. The statements below are for every
record, every field list and every set of decoded fields.

The property's clause about defaults *inherited through included records* is false of the
current code (the generated function only covers the record's own fields): its negation is proved
on a concrete schema (`c13_inherited_default_not_applied_cex`), and the theorems about defaults
speak of the record's own fields only.
"Not shared between instances" is about Go aliasing; in the model every instance is a fresh
value by construction, so that clause is decided by the harness (mutating one instance and
re-inspecting another), not by a theorem. -/
namespace Restli.Codec

/-- a value present in the document always wins over the default -/
theorem c13_present_wins (own : List Field) (fs : List (Bytes × Value)) (k : Bytes)
    (h : hasKey fs k = true) :
    List.lookup k (populateDefaults own fs) = List.lookup k fs := by
  induction own generalizing fs with
  | nil => rfl
  | cons f rest ih =>
    simp only [populateDefaults, List.foldl_cons]
    cases hd : f.dflt with
    | none => exact ih fs h
    | some d =>
      by_cases hp : (fs.any (·.1 == f.name)) = true
      · simp only [hp, ↓reduceIte]; exact ih fs h
      · simp only [hp, Bool.false_eq_true, ↓reduceIte]
        have hk' : hasKey (fs ++ [(f.name, d)]) k = true := by
          simp only [hasKey, List.any_append, Bool.or_eq_true]; exact Or.inl h
        have := ih (fs ++ [(f.name, d)]) hk'
        simp only [populateDefaults] at this
        rw [this, lookup_append_of_hasKey fs _ k h]

/-- an own defaulted field the document omitted carries exactly the schema's default literal
(field names of a record are distinct — part of schema well-formedness) -/
theorem c13_omitted_own_field_gets_default (own : List Field) (fs : List (Bytes × Value)) (f : Field)
    (d : Value) (hn : (own.map (·.name)).Nodup) (hf : f ∈ own) (hd : f.dflt = some d)
    (habs : hasKey fs f.name = false) :
    List.lookup f.name (populateDefaults own fs) = some d := by
  induction own generalizing fs with
  | nil => cases hf
  | cons g rest ih =>
    simp only [List.map_cons, List.nodup_cons] at hn
    simp only [populateDefaults, List.foldl_cons]
    rcases List.mem_cons.1 hf with rfl | hf'
    · have hp : (fs.any (·.1 == f.name)) = false := habs
      simp only [hd, hp, Bool.false_eq_true, ↓reduceIte]
      have hk' : hasKey (fs ++ [(f.name, d)]) f.name = true := by
        simp [hasKey]
      have := c13_present_wins rest (fs ++ [(f.name, d)]) f.name hk'
      simp only [populateDefaults] at this
      rw [this]; exact lookup_append_new fs f.name d habs
    · have hsame : g.name ≠ f.name := by
        intro h; exact hn.1 (by rw [h]; exact List.mem_map_of_mem hf')
      cases hgd : g.dflt with
      | none => exact ih fs hn.2 hf' habs
      | some gd =>
        by_cases hp : (fs.any (·.1 == g.name)) = true
        · simp only [hp, ↓reduceIte]; exact ih fs hn.2 hf' habs
        · simp only [hp, Bool.false_eq_true, ↓reduceIte]
          apply ih (fs ++ [(g.name, gd)]) hn.2 hf'
          simp only [hasKey, List.any_append, Bool.or_eq_false_iff]
          refine ⟨habs, ?_⟩
          simp only [List.any_cons, List.any_nil, Bool.or_false]
          exact beq_eq_false_iff_ne.mpr hsame

/-- a field with a default is not among the required fields (those that are neither optional nor
defaulted), hence never reported missing -/
theorem c13_defaulted_never_required (fields : List Field) (f : Field) (hd : f.dflt.isSome = true)
    (hf : f ∈ fields.filter (fun g => !g.optOrDefault)) : False := by
  simp only [List.mem_filter, Field.optOrDefault, Bool.not_eq_eq_eq_not, Bool.not_true,
    Bool.or_eq_false_iff] at hf
  rw [hf.2.2] at hd; exact absurd hd (by decide)

/-- whenever `finishRecord` (the epilogue both `readTy` and `treeRead` call) succeeds, the result is
exactly the fields read, with the zero value for absent required fields and the own defaults filled in -/
theorem c13_finishRecord_applies_defaults (env : Env) (tr : Tracker) (scope : List Seg) (top : Bool)
    (fields own : List Field) (fs : List (Bytes × Value)) (seen m₀ : List Bytes) (v : Value) (m : List Bytes)
    (h : finishRecord env tr scope top fields own fs seen m₀ = .ok v m) :
    v = .record (populateDefaults own (fillRequired env fields fs)) := by
  unfold finishRecord at h
  split at h
  · cases h
  · split at h
    · cases h
    · cases h; rfl

/-- at the top level a successful result means no required field was missing: defaults never
count as missing (they are not in the required list, `c13_defaulted_never_required`) -/
theorem c13_finishRecord_top_ok_no_missing (env : Env) (tr : Tracker) (scope : List Seg)
    (fields own : List Field) (fs : List (Bytes × Value)) (seen m₀ : List Bytes) (v : Value) (m : List Bytes)
    (h : finishRecord env tr scope true fields own fs seen m₀ = .ok v m) : m = [] := by
  unfold finishRecord at h
  split at h
  · cases h
  · split at h
    · cases h
    · next hne =>
      cases h
      simpa using hne

/-! ## the default of a record, union, array or map field is its literal read as a document

The generated `populateLocalDefaultValues` obtains such a default by handing the schema's JSON
literal to the field type's own unmarshaler, so the value held is what the JSON reader returns
for that document — with the own defaults of every record inside it filled in (`norm`). The
schema the model works with is `expandDefaults` of the schema as written (Driver/Codec.lean),
so a generator that stores the literal any other way (a zero record for `{}`, say) disagrees
with the model on the first document that omits the field. -/

/-- the JSON tree round trip (`json_roundtrip_tree`), read with a default literal `d` as the value:
reading the document `d` is written as yields `norm d`, nothing reported missing. What ties it to
defaults is `expandDefaults`, which stores exactly that result (the two closed theorems below). -/
theorem c13_default_literal_is_read_as_a_document (env : Env) (F : FloatLaws) (C : ConvLaws)
    (hS : schemaOKb env = true) (ign f : Nat) (scopeW : List Bytes) (scopeR : List Seg) (top : Bool)
    (ty : Ty) (d : Value) (doc : Doc) (hv : ValOK d)
    (henc : encode { env := env, excl := .empty, sortKeys := true } f scopeW ty d = .ok doc) :
    treeRead { env := env, tracker := { excl := .empty, ignore := ign } } top scopeR ty (treeOf jsonEnc doc) =
      .ok (norm env f ty d) [] :=
  json_roundtrip_tree env F C (schemaOK_of_check env hS) ign f scopeW scopeR top ty d doc hv henc

/-- `Paging` has defaults of its own; `Query` has a `Paging`-typed field whose default is `{}` -/
def envNested : Env :=
  [("Paging", .record [] [{ name := [99], ty := .prim .i32, optional := false, dflt := some (.i32 10) },
                          { name := [115], ty := .prim .i32, optional := true, dflt := some (.i32 0) }]),
   ("Query", .record [] [{ name := [112], ty := .ref "Paging", optional := false, dflt := some (.record []) }])]

/-- the literal `{}` of type `Paging` denotes the record with `Paging`'s own defaults … -/
example : norm envNested literalFuel (.ref "Paging") (.record []) = .record [([99], .i32 10), ([115], .i32 0)] := by rfl

/-- … which is what `Query` holds as the default of `p` once the schema is read like the
generated code reads it … -/
theorem c13_empty_object_default_carries_nested_defaults :
    (expandDefaults envNested).find "Query" =
      some (.record [] [{ name := [112], ty := .ref "Paging", optional := false,
                          dflt := some (.record [([99], .i32 10), ([115], .i32 0)]) }]) := by rfl

/-- … and what decoding `()` as `Query` puts into `p` -/
theorem c13_omitted_record_field_gets_expanded_default :
    (match unmarshalRor2 { env := expandDefaults envNested, tracker := { excl := .empty, ignore := 0 }, plus := false }
        (.ref "Query") [40, 41] with
      | .ok v _ => some v | _ => none) =
      some (.record [([112], .record [([99], .i32 10), ([115], .i32 0)])]) := by rfl

/-- what a field is apart from its default's value -/
def Field.shape (f : Field) : Bytes × Ty × Bool × Bool := (f.name, f.ty, f.optional, f.dflt.isSome)

/-- reading the literals changes the default *values* only: every declaration keeps its kind, its
includes, and the name, type, optional flag and defaultedness of every field — so required-field
lists, field order and everything else the readers and writers take from the schema are those of
the schema as written -/
theorem c13_expansion_changes_default_values_only (env : Env) (d : Decl) :
    (∀ incs own, d = .record incs own →
      ∃ own', expandDecl env d = .record incs own' ∧ own'.map Field.shape = own.map Field.shape) ∧
    ((∀ incs own, d ≠ .record incs own) → expandDecl env d = d) := by
  constructor
  · intro incs own hd
    subst hd
    refine ⟨_, rfl, ?_⟩
    simp [List.map_map, Function.comp_def, Field.shape, Option.isSome_map]
  · intro h
    cases d with
    | record incs own => exact absurd rfl (h incs own)
    | _ => rfl

/-- expanding every declaration of a schema does not move any: looking a name up afterwards gives
the expansion of what stood under that name -/
theorem c13_expansion_keeps_names (env ctx : Env) (n : TName) :
    Env.find (env.map fun (e : TName × Decl) => (e.1, expandDecl ctx e.2)) n = (env.find n).map (expandDecl ctx) := by
  induction env with
  | nil => rfl
  | cons e rest ih =>
    simp only [Env.find, List.map_cons, List.lookup] at ih ⊢
    cases hne : (n == e.1) with
    | true => simp
    | false => simpa using ih

/-! ## inherited defaults: the full statement fails on the current code -/

/-- `Base` declares a default; `Derived` includes `Base` -/
def envInh : Env :=
  [("Base", .record [] [{ name := [98], ty := .prim .i32, optional := false, dflt := some (.i32 7) }]),
   ("Derived", .record ["Base"] [{ name := [120], ty := .prim .i32, optional := true, dflt := none }])]

def cfgInh : RCfg := { env := envInh, tracker := { excl := .empty, ignore := 0 }, plus := false }

/-- decoding `()` as `Base` fills the default … -/
example : (match unmarshalRor2 cfgInh (.ref "Base") [40, 41] with
    | .ok v _ => some v | _ => none) = some (.record [([98], .i32 7)]) := by rfl

/-- … but decoding `()` as `Derived` does not: the counter-example to "declared directly or
inherited through included records" (F12; replayed on the real bindings by the harness, corpus
type `InclDefaults`) -/
theorem c13_inherited_default_not_applied_cex :
    (match unmarshalRor2 cfgInh (.ref "Derived") [40, 41] with
      | .ok v _ => some v | _ => none) = some (.record []) := by rfl

end Restli.Codec
