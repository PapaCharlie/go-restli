import Restli.Proofs.LazyMapRefine
import Restli.Gen.Tables
/-! # C18 — the lazy map publishes each key's value once under every interleaving

The model is `Model/LazyMap.lean`: a small-step system with one step per atomic action of
`sync.Map` / the compute function / the `WaitGroup`.

Every theorem that needs an invariant assumes only `Reachable s`: `s = run (init progs) sched`
for an arbitrary assignment `progs` of operation sequences to (any number of) threads and an
arbitrary schedule `sched` — no bound on threads, keys, operations or steps. -/
namespace Restli.LazyMap

/-! ## The compute function for a key runs at most once -/

/-- The user compute function of a key runs at most once — not just per race but ever: keys are
never deleted, so after the first placeholder for a key no `LoadOrStore` can install another
(`Store`'s inner closure is not a user compute and is not counted). -/
theorem c18_compute_at_most_once {s : Sys} (h : Reachable s) (k : Nat) : s.computes k ≤ 1 :=
  (inv_reachable h).comp1 k

/-- At most one in-flight placeholder is ever installed for a key (by a `LoadOrStore` or by a
`Store`). -/
theorem c18_one_placeholder_per_key {s : Sys} (h : Reachable s) (k : Nat) : s.placed k ≤ 1 :=
  (inv_reachable h).placed1 k

/-! ## Racing callers agree -/

/-- Two completed `LoadOrStore`/`Load` calls on the same key that both went through a
placeholder — the caller that installed it and every caller that found it in flight and
waited — went through the *same* placeholder and returned the same value. -/
theorem c18_racers_agree {s : Sys} (h : Reachable s)
    {t₁ t₂ : Nat} {op₁ op₂ : Op} {r₁ r₂ : Ret} {via₁ via₂ : Via} {p₁ p₂ : Nat}
    (h₁ : Ev.ret t₁ op₁ r₁ via₁ ∈ s.trace) (h₂ : Ev.ret t₂ op₂ r₂ via₂ ∈ s.trace)
    (hp₁ : via₁.pid? = some p₁) (hp₂ : via₂.pid? = some p₂)
    (hk : op₁.key = op₂.key) (hs₁ : op₁.isStore = false) (hs₂ : op₂.isStore = false) :
    p₁ = p₂ ∧ r₁ = r₂ ∧ ∃ v, r₁ = .val v := by
  have hI := inv_reachable h
  obtain ⟨ho₁, v₁, hv₁, hr₁⟩ := via_value hI h₁ hp₁
  obtain ⟨ho₂, v₂, hv₂, hr₂⟩ := via_value hI h₂ hp₂
  rw [hk, ho₂] at ho₁
  cases ho₁
  rw [hv₁] at hv₂
  cases hv₂
  exact ⟨rfl, by rw [hr₁ hs₁, hr₂ hs₂], v₁, hr₁ hs₁⟩

/-- A racer's result is what its placeholder's `v` field holds. (That `v` is written once, by
the owner, is `PcInv` at `compute` in `Proofs/LazyMap.lean`; this statement does not say it.) -/
theorem c18_racer_returns_owner_value {s : Sys} (h : Reachable s)
    {t : Nat} {op : Op} {r : Ret} {via : Via} {p : Nat}
    (he : Ev.ret t op r via ∈ s.trace) (hp : via.pid? = some p) (hs : op.isStore = false) :
    ∃ v, (s.ph p).v = some v ∧ r = .val v := by
  obtain ⟨_, v, hv, hr⟩ := via_value (inv_reachable h) he hp
  exact ⟨v, hv, hr hs⟩

/-! ## A load never returns an in-flight placeholder -/

/-- No call of any kind ever returns the content of a placeholder that has not been written
(`Ret.nil`, the observable of a leaked `*inFlightValue`): a `Load` returns "missing" or a value,
a `LoadOrStore` returns a value, a `Store` returns nothing. (That the placeholder object itself
is never returned cannot be said in `Ret`; it is enforced by the type switch in the Go code,
which the model mirrors: a thread that finds `Cell.infl` goes to `wait`, it does not return.) -/
theorem c18_load_never_returns_placeholder {s : Sys} (h : Reachable s)
    {t : Nat} {op : Op} {r : Ret} {via : Via} (he : Ev.ret t op r via ∈ s.trace) :
    r ≠ .nil ∧
      match op with
      | .load _ => r = .missing ∨ ∃ v, r = .val v
      | .los _ _ => ∃ v, r = .val v
      | .store _ _ => r = .unit := by
  have hs := ((inv_reachable h).tr _ he).1
  cases op <;> simp only [retShape] at hs ⊢
  · obtain ⟨v, rfl⟩ := hs; exact ⟨by simp, v, rfl⟩
  · rcases hs with rfl | ⟨v, rfl⟩
    · exact ⟨by simp, Or.inl rfl⟩
    · exact ⟨by simp, Or.inr ⟨v, rfl⟩⟩
  · subst hs; exact ⟨by simp, rfl⟩

/-! ## A load never blocks once the computation has returned -/

/-- A thread waiting on a placeholder whose owner has signalled is enabled. -/
theorem c18_waiter_enabled_once_done {s : Sys} (h : Reachable s) {i q : Nat}
    (hpc : (s.threads i).pc = .wait q) (hd : (s.ph q).done = true) :
    (step s i).isSome = true := by
  have hI := inv_reachable h
  cases hs : step s i with
  | some _ => rfl
  | none =>
    obtain ⟨op, rest, htodo, _⟩ := (hI.thr i).of_ne_start (by rw [hpc]; nofun)
    obtain ⟨q', hq', hd'⟩ := step_none_wait hI htodo hs
    rw [hpc] at hq'; cases hq'
    rw [hd] at hd'; cases hd'

/-- The only way a thread with work left can be blocked: it waits on a placeholder whose owner
is still inside the `LoadOrStore` or `Store` that installed it — and that owner is itself
enabled. -/
theorem c18_blocked_only_while_owner_running {s : Sys} (h : Reachable s) {i : Nat}
    (hw : (s.threads i).todo ≠ []) (hb : step s i = none) :
    ∃ q j, (s.threads i).pc = .wait q ∧ (s.threads j).pc.owns q = true ∧
      (step s j).isSome = true := by
  have hI := inv_reachable h
  cases htodo : (s.threads i).todo with
  | nil => exact (hw htodo).elim
  | cons op rest =>
    obtain ⟨q, hq, hd⟩ := step_none_wait hI htodo hb
    have hp := (hI.thr i).cons htodo
    rw [hq] at hp
    obtain ⟨j, hj⟩ := hI.notDoneOwned q (hI.phOfLt hp.1) hd
    exact ⟨q, j, hq, hj, owner_enabled hI hj⟩

/-- No deadlock: if no thread can step, every thread has finished all its operations. -/
theorem c18_no_deadlock {s : Sys} (h : Reachable s) (hq : ∀ i, step s i = none) (i : Nat) :
    (s.threads i).todo = [] := by
  cases htodo : (s.threads i).todo with
  | nil => rfl
  | cons op rest =>
    obtain ⟨q, j, _, _, hj⟩ :=
      c18_blocked_only_while_owner_running h (by rw [htodo]; simp) (hq i)
    rw [hq j] at hj; cases hj

/-- Once the computation's raw store has happened (the cell holds a plain value), a `Load`
returns that value in its single atomic step — it never waits. -/
theorem c18_load_immediate_after_store {s : Sys} {i k v : Nat} {rest : List Op}
    (hc : s.cell k = .val v) (htodo : (s.threads i).todo = .load k :: rest)
    (hpc : (s.threads i).pc = .start) :
    ∃ s', step s i = some s' ∧ (s'.threads i).rets = (s.threads i).rets ++ [.val v] ∧
      (s'.threads i).todo = rest := by
  rw [step_cons htodo, hpc]
  show ∃ s', Option.map _ (match s.cell k with
    | .absent => _
    | .infl q => _
    | .val v => _) = some s' ∧ _
  rw [hc]
  exact ⟨_, rfl, congrArg Thread.rets (if_pos rfl), congrArg Thread.todo (if_pos rfl)⟩

/-- A key that holds a value never goes back to "absent" or "in flight", whatever happens
afterwards. -/
theorem c18_value_cell_stays_value {s : Sys} (sched : List Nat) (k : Nat)
    (hv : (s.cell k).isVal = true) : ((run s sched).cell k).isVal = true := by
  refine run_induction (P := fun s => (s.cell k).isVal = true) (fun s i s' hv h => ?_) hv sched
  obtain ⟨op, rest, s1, nx, htodo, hs, rfl⟩ := step_some_inv h
  exact hs.isVal k hv

/-! ## A store is never lost -/

/-- A `Store`'s write takes effect: whichever of its two write steps it reaches — the raw store
as placeholder owner, or the final raw store after losing/waiting — the step is enabled and
leaves the `Store`'s own value in the cell. -/
theorem c18_store_write_takes_effect {s : Sys} (h : Reachable s) {i k v : Nat} {rest : List Op}
    (htodo : (s.threads i).todo = .store k v :: rest)
    (hpc : (∃ p w, (s.threads i).pc = .rawStore p w) ∨ (s.threads i).pc = .finalStore) :
    ∃ s', step s i = some s' ∧ s'.cell k = .val v := by
  have hp := ((inv_reachable h).thr i).cons htodo
  rw [step_cons htodo]
  rcases hpc with ⟨p, w, hpc⟩ | hpc
  · rw [hpc] at hp ⊢
    have hw : v = w := hp.2.2
    exact ⟨_, rfl, hw ▸ setCell_same⟩
  · rw [hpc]
    exact ⟨_, rfl, setCell_same⟩

/-- In one step, a value in the map is only ever replaced by a different one through a `Store`
operation's own final store: in particular the raw store of an in-flight computation can never
clobber a value (it happens while the cell still holds the placeholder). A `Store` of the same
value `w` is not seen by this statement. -/
theorem c18_store_not_lost {s s' : Sys} (h : Reachable s) {i k w : Nat}
    (hstep : step s i = some s') (hw : s.cell k = .val w) (hne : s'.cell k ≠ .val w) :
    ∃ v rest, (s.threads i).todo = .store k v :: rest ∧ (s.threads i).pc = .finalStore ∧
      s'.cell k = .val v :=
  overwrite_is_store (inv_reachable h) hstep hw hne

/-- A `Store` that has to wait for an in-flight computation performs its own write strictly
after that computation's raw store: when it stands at its final store, the cell already holds
a plain value (so the final store is the later write and wins). -/
theorem c18_final_store_after_raw_store {s : Sys} (h : Reachable s) {i : Nat}
    (hpc : (s.threads i).pc = .finalStore) :
    ∃ k v rest, (s.threads i).todo = .store k v :: rest ∧ (s.cell k).isVal = true := by
  obtain ⟨op, rest, htodo, ht⟩ := ((inv_reachable h).thr i).of_ne_start (by rw [hpc]; nofun)
  rw [hpc] at ht
  cases op with
  | store k v => exact ⟨k, v, rest, htodo, ht.2⟩
  | los => cases ht.1
  | load => cases ht.1

/-! ## Linearizability with respect to a plain map offering compute-if-absent -/

/-- **Linearizability (forward simulation).** For every assignment of programs to threads and
every schedule, the atomic-object automaton of the plain map with compute-if-absent
(`Spec/LazyMap.lean`: each call takes effect in one atomic step between its `call` and its
`ret`) has an execution `ls` from its initial state, running the same programs, such that

* its visible events — calls and responses with their results, in order — are exactly the
  visible events of the implementation run (`Ev.obs` drops the ghost `via`, `labObs` drops the
  invisible linearization steps; `call`/`ret` of the implementation coincide with a call's
  first and last atomic step, the tightest real-time order),
* every thread has the same results so far and the same calls left, and
* the specification's map is the implementation's map with in-flight placeholders read as
  "absent".

Linearization points (`sim_step` in `Proofs/LazyMapRefine.lean`): the atomic map access of a call that
finds a plain value or nothing; the placeholder owner's raw store, at which every reader
already waiting on the placeholder is linearized as well; a `Store`'s final raw store. -/
theorem c18_impl_refines_spec (progs : Nat → List Op) (sched : List Nat) :
    ∃ (ls : List LazyMapSpec.Label) (a : LazyMapSpec.State),
      LazyMapSpec.Steps (LazyMapSpec.init (fun t => (progs t).map opS)) ls a ∧
      ls.filterMap labObs = (run (init progs) sched).trace.map Ev.obs ∧
      (∀ t, (a.rets t).map retM = ((run (init progs) sched).threads t).rets) ∧
      (∀ t, a.todo t = ((run (init progs) sched).threads t).todo.map opS) ∧
      a.map = absMap (run (init progs) sched) := by
  obtain ⟨ls, a, hs, hR, htr⟩ := refine_run progs sched
  exact ⟨ls, a, hs, htr, hR.rets, hR.todo, hR.map⟩

/-- The translation of operations between model and specification is a bijection, so the
theorem above covers every program of the specification. -/
theorem c18_opS_bijective : (∀ o₁ o₂, opS o₁ = opS o₂ → o₁ = o₂) ∧ ∀ o', ∃ o, opS o = o' := by
  constructor
  · intro o₁ o₂ h; cases o₁ <;> cases o₂ <;> simp [opS] at h ⊢ <;> exact h
  · intro o'
    cases o' with
    | computeIfAbsent k v => exact ⟨.los k v, rfl⟩
    | load k => exact ⟨.load k, rfl⟩
    | store k v => exact ⟨.store k v, rfl⟩

/-- Results are compared through an injective translation whose range excludes `Ret.nil`: a run
in which some call returned an unwritten placeholder's content could not satisfy
`c18_impl_refines_spec`. -/
theorem c18_retM_injective : (∀ r₁ r₂, retM r₁ = retM r₂ → r₁ = r₂) ∧ ∀ r, retM r ≠ .nil := by
  constructor
  · intro r₁ r₂ h; cases r₁ <;> cases r₂ <;> simp [retM] at h ⊢ <;> exact h
  · intro r; cases r <;> simp [retM]

/-! ## Non-vacuity -/

/-- four threads: two racing `LoadOrStore`s, a `Load` and a `Store` on key 1 -/
def sampleProgs : List (List Op) := [[.los 1 10], [.los 1 20], [.load 1], [.store 1 30]]
def sampleSched : List Nat := [0, 1, 2, 3, 0, 0, 0, 1, 2, 3, 3]

example : Reachable (run (initL sampleProgs) sampleSched) := ⟨_, _, rfl⟩
-- the race is real: thread 0 computes (once), threads 1 and 2 wait on its placeholder and get
-- its value, the store, ordered after the in-flight computation, determines the final value; all
-- four calls complete (4 `call` + 4 `ret` events)
example : (run (initL sampleProgs) sampleSched).computes 1 = 1 := by decide +kernel
example : ((run (initL sampleProgs) sampleSched).threads 0).rets = [.val 10] := by decide +kernel
example : ((run (initL sampleProgs) sampleSched).threads 1).rets = [.val 10] := by decide +kernel
example : ((run (initL sampleProgs) sampleSched).threads 2).rets = [.val 10] := by decide +kernel
example : (run (initL sampleProgs) sampleSched).cell 1 = .val 30 := by decide +kernel
example : (run (initL sampleProgs) sampleSched).trace.length = 8 := by decide +kernel
example : Ev.ret 1 (.los 1 20) (.val 10) (.waited 0) ∈ (run (initL sampleProgs) sampleSched).trace := by
  decide +kernel
-- a blocked waiter exists on the way (hypotheses of `c18_blocked_only_while_owner_running`)
example : step (run (initL sampleProgs) [0, 1]) 1 = none ∧
    ((run (initL sampleProgs) [0, 1]).threads 1).pc = .wait 0 := by decide +kernel
-- and a state where a present value is overwritten by a Store (hypotheses of
-- `c18_store_not_lost`)
example : (run (initL sampleProgs) [0, 0, 0, 3]).cell 1 = .val 10 ∧
    (run (initL sampleProgs) [0, 0, 0, 3, 3]).cell 1 = .val 30 := by decide +kernel

/-! ## The steps of the source are the steps of the model

The atomic actions of `lazymap.go`, in source order, each with the `yield` that announces it
(regenerated from `/repo` on every run by `tools/extract`, group `c18-lazymap-steps`). The model
has exactly these transitions (`Pc`): `start` of a `LoadOrStore` / `Load`, `wait`, `compute`,
`rawStore`, `signal`, `finalStore`; and the harness can force an interleaving only at the
announced points. An atomic action added, removed, replaced by another, or left without a
`yield` of its own (label `<unannounced>`) changes the list, and this statement — for both module
copies — no longer checks. -/
def modelSteps : List (String × String × String) :=
  [("LoadOrStore", "los.LoadOrStore", "sync.Map.LoadOrStore"),  -- Pc.start (op .los)
   ("LoadOrStore", "los.Wait", "WaitGroup.Wait"),               -- Pc.wait
   ("LoadOrStore", "los.compute", "call f"),                    -- Pc.compute
   ("LoadOrStore", "los.Store", "sync.Map.Store"),              -- Pc.rawStore
   ("LoadOrStore", "los.Done", "WaitGroup.Done"),               -- Pc.signal
   ("Load", "load.Load", "sync.Map.Load"),                      -- Pc.start (op .load)
   ("Load", "load.Wait", "WaitGroup.Wait"),                     -- Pc.wait
   ("Store", "store.Store", "sync.Map.Store")]                  -- Pc.finalStore

theorem c18_source_steps_are_the_models :
    Restli.Gen.lazymapSteps = modelSteps ∧ Restli.GenRoot.lazymapSteps = modelSteps :=
  ⟨rfl, rfl⟩

end Restli.LazyMap
