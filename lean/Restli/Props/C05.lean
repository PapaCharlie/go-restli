import Restli.Proofs.Routing
/-! # C05 — routing and Rest.li method inference send each request to exactly one method

The property theorems, the propositions `Guards` / `RouteEqSpec` and the witnesses they are stated on;
the rest of their vocabulary (`Tied`, `nodesOk`, `actionLevelMatches`, `Tag`, `reaches`, …) stands at the
head of `Proofs/Routing.lean`, the lemmas after it. The model is `Model/Routing.lean`
(`ServeHTTP`, `receive`, `Register*`, `Handler()`, `AddToMux` as written), the specification is
`Spec/Routing.lean` (a decision table written from the property text). Every statement is for all
resource trees (any nesting, any names, any method / finder / action subsets), all requests and all
validators `V` of keys and query values; `C` ranges over the constants of either module generation,
regenerated from source, and `Tied C` says that they are what the specification demands
(`c05_constants_tied_v2`, `c05_constants_tied_root`).

Where the code violates the property, the full statement is kept as a named proposition, the
theorem that holds is published as `…_partial` with the guard as a decidable predicate, and the
negation of the full statement is proved on a concrete witness. One violation stands:

* ACT  `receive` does not check entity-key presence for actions; the generated path decoder does,
       after the filters have run: an entity-level action without a key / a resource-level action
       with one is answered 400, but it counts as routed and the filters see it
                                                                          — guard `actionLevelMatches`

The code answers a malformed query value and a malformed key with 400 (findings F7, F20 of DESIGN.md,
fixed in /repo), routes on `URL.EscapedPath()` (F5), `NewPrefixedServer` keeps its prefix (F6) and
`AddToMux` registers the subtree pattern too (MUX): the theorems about these carry no guard. -/
namespace Restli.Routing
open Spec

/-- The regenerated constants of the v2 module (header name, the thirteen method names, reserved
parameter names, statuses of the not-routed branches) are the ones the specification is written with. -/
theorem c05_constants_tied_v2 : Tied constsV2 := tied_both.1

/-- The same for the root module. -/
theorem c05_constants_tied_root : Tied constsRoot := tied_both.2

/-- the guard forced by finding ACT -/
def Guards (roots : List Node) (req : Req) : Prop := actionLevelMatches roots req = true

instance (roots : List Node) (req : Req) : Decidable (Guards roots req) := by
  unfold Guards; infer_instance

/-- **Full statement** (false today, see `c05_route_eq_spec_cex_action_level`): on every request whose
outcome the property text determines, the routing decision of the code is the one of the decision table. -/
def RouteEqSpec (C : Consts) : Prop :=
  ∀ (V : String → Bool) (roots : List Node) (req : Req), nodesOk roots = true →
    specified V roots req = true → route C V roots req = Spec.decide V roots req

/-- For every tree satisfying `nodesOk`, every validator and every request the text determines —
outside the action-level finding — the code routes the request to the method the decision table
names, or refuses it with the status the table names (404 for unknown resources and sub-resources,
400 otherwise, malformed keys and query values included). -/
theorem c05_route_eq_spec_partial (C : Consts) (hC : Tied C) (V : String → Bool) (roots : List Node) (req : Req)
    (hroots : nodesOk roots = true) (hg : Guards roots req) (hs : specified V roots req = true) :
    route C V roots req = Spec.decide V roots req := by
  simp only [specified, Bool.and_eq_true, Bool.not_eq_eq_eq_not, Bool.not_true] at hs
  obtain ⟨⟨⟨⟨⟨hUnknownHeader, _⟩, hEmptyReserved⟩, hDupReserved⟩, hMalformedUnknown⟩, hLocated⟩ := hs
  refine route_eq_specDecide C hC V roots req hroots hg hUnknownHeader hEmptyReserved hDupReserved hMalformedUnknown ?_
  intro t ht
  simp only [ht, Bool.and_eq_true, Bool.not_eq_eq_eq_not, Bool.not_true] at hLocated
  obtain ⟨⟨⟨_, hOtherVerb⟩, hKeyAndIds⟩, _⟩ := hLocated
  exact ⟨hOtherVerb, hKeyAndIds⟩

/-- The agreement needs fewer exclusions than the text leaves open: a header that contradicts the
verb, an empty path segment and `q` together with `ids` are decided by the code exactly as the
table's uniform reading decides them (the header names the method; an empty segment is a segment;
`q` is looked at before `ids`). -/
theorem c05_route_eq_spec_wider (C : Consts) (hC : Tied C) (V : String → Bool) (roots : List Node) (req : Req)
    (hroots : nodesOk roots = true) (hg : Guards roots req)
    (h1 : unknownHeaderValue req = false) (h2 : emptyReservedValue req = false) (h3 : duplicateReserved req = false)
    (h5 : malformedAndUnknown V roots req = false)
    (h4 : ∀ t, locate roots req.path = some t → otherVerbWithHeaderOnSimple t req = false ∧ keyAndIds t req = false) :
    route C V roots req = Spec.decide V roots req :=
  route_eq_specDecide C hC V roots req hroots hg h1 h2 h3 h5 h4

/-- a collection with an entity-level and a resource-level action, a finder and a simple sub-resource -/
def witnessTree : List Node :=
  [.mk "coll" true [.get, .get_all, .create] ["byName"] [("resAct", false), ("entAct", true)]
     [.mk "sub" false [.get] [] [] []]]

def witnessReq (verb : Verb) (hdr : Option String) (path : List String) (query : List (String × String)) : Req :=
  { verb := verb, headers := hdr.toList.map (fun h => ("X-RestLi-Method", h)), path := path, query := query,
    decodes := Method.all, implOk := true }

/-- (ACT) `POST /coll/1?action=resAct` with `X-RestLi-Method: action`: a resource-level action called
with an entity key counts as routed in the code (the filters run; the generated path decoder then
answers 400); the table refuses it without touching anything. -/
theorem c05_route_eq_spec_cex_action_level : ¬ RouteEqSpec constsV2 := by
  intro h
  have := h validateRor2Input witnessTree (witnessReq .POST (some "action") ["coll", "1"] [("action", "resAct")])
    (by decide +kernel) (by decide +kernel)
  revert this; decide +kernel

/-- (F7, fixed in /repo) a malformed query value is a bad request, for the code as for the table. -/
theorem c05_malformed_query_is_400 :
    route constsV2 validateRor2Input witnessTree (witnessReq .GET none ["coll", "1"] [("foo", ")")]) = .reject 400 ∧
    Spec.decide validateRor2Input witnessTree (witnessReq .GET none ["coll", "1"] [("foo", ")")]) = .reject 400 := by
  decide +kernel

/-- (F20, fixed in /repo) a malformed entity key on a registered collection is a bad request, not a missing resource. -/
theorem c05_malformed_key_is_400 :
    route constsV2 validateRor2Input witnessTree (witnessReq .GET none ["coll", ")"] []) = .reject 400 ∧
    Spec.decide validateRor2Input witnessTree (witnessReq .GET none ["coll", ")"] []) = .reject 400 := by
  decide +kernel

/-- "A request is routed to a resource method if and only if its path names a registered resource
(walking parent keys and sub-resources), its Rest.li method is registered on that resource, and the
presence of an entity key matches what that method requires" — `Routable` spells the right-hand
side out (`Spec/Routing.lean`); the facts handed to filters and method are the ones it names. -/
theorem c05_routed_iff (C : Consts) (hC : Tied C) (V : String → Bool) (roots : List Node) (req : Req) (f : Facts)
    (hroots : nodesOk roots = true) (hg : Guards roots req) (hs : specified V roots req = true) :
    route C V roots req = .routed f ↔ Routable V roots req f := by
  rw [c05_route_eq_spec_partial C hC V roots req hroots hg hs, specDecide_routed_iff]

/-- Filters and the method see exactly the routed facts: every `PreRequest` and the resource method
find in the context the method, resource path, entity keys and finder / action name the request was
routed with — and nothing is shown to anyone when the request is not routed. -/
theorem c05_filters_see_routed_facts (C : Consts) (V : String → Bool) (h : Handler) (req : Req) :
    ∀ ev ∈ (serveSegs C V h req).events, ∀ f', ev.facts? = some f' → route C V h.roots req = .routed f' := by
  intro ev hev f' hf'
  cases hr : route C V h.roots req with
  | reject st =>
    have := (serveSegs_unrouted hr).1
    rw [this] at hev; cases hev
  | routed f =>
    obtain ⟨o, e, hx⟩ := route_routed_iff.mp hr
    obtain ⟨_, _, _, sh⟩ := serveSegs_routed_shape h hx
    rcases sh.facts ev hev with hnone | hsome
    · rw [hnone] at hf'; cases hf'
    · rw [hsome] at hf'; cases hf'; rfl

/-- Whatever the tree, the filters and the request: resource code runs at most once per request, and
when it runs it is the method the request was routed to — "that one and no other". -/
theorem c05_exactly_one (C : Consts) (V : String → Bool) (h : Handler) (req : Req) :
    ((serveSegs C V h req).events.map Event.tag).count Tag.inv ≤ 1 ∧
    ∀ f' s, Event.invoke f' s ∈ (serveSegs C V h req).events → route C V h.roots req = .routed f' := by
  refine ⟨?_, fun f' s hmem => c05_filters_see_routed_facts C V h req _ hmem f' rfl⟩
  cases hr : route C V h.roots req with
  | reject st => simp [(serveSegs_unrouted hr).1]
  | routed f =>
    obtain ⟨o, e, hx⟩ := route_routed_iff.mp hr
    obtain ⟨k, m, mid, sh⟩ := serveSegs_routed_shape h hx
    rw [sh.tags, List.count_append, List.count_append, count_inv_pre, count_inv_post]
    rcases sh.mid_cases with rfl | ⟨s, rfl⟩ <;> simp [Event.tag]

/-- …and exactly once when nothing stands in the way: the request is routed, no filter refuses it,
and keys, parameters and body decode. -/
theorem c05_exactly_one_served (C : Consts) (V : String → Bool) (h : Handler) (req : Req) (f : Facts) (o e : Bool)
    (hx : routeX C V h.roots req = .routed f o e) (hfilters : h.filters.any refusesBefore = false)
    (hreach : reaches f o e req = true) :
    ((serveSegs C V h req).events.map Event.tag).count Tag.inv = 1 := by
  obtain ⟨k, m, mid, sh⟩ := serveSegs_routed_shape h hx
  have hne := ((sh.served hfilters).2 hreach).1
  rw [sh.tags, List.count_append, List.count_append, count_inv_pre, count_inv_post]
  rcases sh.mid_cases with rfl | ⟨s, rfl⟩
  · exact absurd rfl hne
  · simp [Event.tag]

/-- Every request that is not routed — specified by the text or not — receives a 4xx response (404
or 400) and touches neither filters nor resource code. -/
theorem c05_unrouted_is_4xx_and_untouched (C : Consts) (hC : Tied C) (V : String → Bool) (h : Handler)
    (req : Req) (st : Nat) (hr : route C V h.roots req = .reject st) :
    (serveSegs C V h req).events = [] ∧ (serveSegs C V h req).status = st ∧ (st = 404 ∨ st = 400) := by
  refine ⟨(serveSegs_unrouted hr).1, (serveSegs_unrouted hr).2, ?_⟩
  cases hloc : locate h.roots req.path with
  | none =>
    obtain ⟨st', hr', hst⟩ := route_unlocated hC V hloc
    cases hr'.symm.trans hr
    exact hst.imp_right And.left
  | some t => exact Or.inr (reject_located hC hloc hr)

/-- 404 exactly for unknown resources and sub-resources, 400 otherwise — on every request that does
not combine a malformed path segment with an unknown resource (the text gives no order there). -/
theorem c05_unrouted_404_iff_unknown (C : Consts) (hC : Tied C) (V : String → Bool) (h : Handler)
    (req : Req) (st : Nat) (hs : malformedAndUnknown V h.roots req = false)
    (hr : route C V h.roots req = .reject st) :
    st = if (locate h.roots req.path).isNone then 404 else 400 := by
  cases hloc : locate h.roots req.path with
  | none =>
    rw [route_unknown hC hloc hs] at hr
    cases hr
    rfl
  | some t => exact reject_located hC hloc hr

/-- For a routed request the filters' `PreRequest` run first, in registration order and without
gaps (`pre 0, pre 1, …`), then — only if all of them let the request through and keys, parameters
and body decode — the method, then — only if it succeeded — the filters' `PostRequest` in reverse
registration order (`post n-1, post n-2, …`). -/
theorem c05_filters_order (C : Consts) (V : String → Bool) (h : Handler) (req : Req) (f : Facts) (o e : Bool)
    (hx : routeX C V h.roots req = .routed f o e) :
    ∃ (k m : Nat) (mid : List Event), k ≤ h.filters.length ∧ m ≤ h.filters.length ∧
      (serveSegs C V h req).events.map Event.tag =
        (List.range k).map Tag.pre ++ mid.map Event.tag ++ ((List.range h.filters.length).reverse.take m).map Tag.post ∧
      (mid = [] ∨ ∃ s, mid = [.invoke f s]) ∧
      (mid ≠ [] → k = h.filters.length ∧ reaches f o e req = true) ∧
      (m ≠ 0 → mid ≠ [] ∧ req.implOk = true) := by
  obtain ⟨k, m, mid, sh⟩ := serveSegs_routed_shape h hx
  exact ⟨k, m, mid, sh.pre_le, sh.post_le, sh.tags, sh.mid_cases, sh.reached, sh.post_ran⟩

/-- When no filter refuses, the request decodes and the method succeeds, that is the whole story:
every filter before, the method, every filter after in reverse order. -/
theorem c05_filters_order_served (C : Consts) (V : String → Bool) (h : Handler) (req : Req) (f : Facts) (o e : Bool)
    (hx : routeX C V h.roots req = .routed f o e)
    (hpre : h.filters.any refusesBefore = false) (hpost : h.filters.any (· == .failPost) = false)
    (hreach : reaches f o e req = true) (himpl : req.implOk = true) :
    (serveSegs C V h req).events.map Event.tag =
      (List.range h.filters.length).map Tag.pre ++ [Tag.inv] ++ (List.range h.filters.length).reverse.map Tag.post := by
  obtain ⟨k, m, mid, sh⟩ := serveSegs_routed_shape h hx
  obtain ⟨hk, hrest⟩ := sh.served hpre
  obtain ⟨hne, hm⟩ := hrest hreach
  have hm' := hm himpl hpost
  rcases sh.mid_cases with rfl | ⟨s, rfl⟩
  · exact absurd rfl hne
  · rw [sh.tags, hk, hm']
    simp only [List.map_cons, List.map_nil, Event.tag, List.map_reverse, List.append_assoc]
    rw [List.take_of_length_le (by simp)]
    simp

/-- Bare handler: a request whose escaped path is `/` + the segments joined by `/` is served as the
routing model says for those segments. -/
theorem c05_mounting_invariant_bare (C : Consts) (V : String → Bool) (h : Handler) (req : Req) (urlPath : String)
    (hp : h.pfx = "/") (hne : req.path ≠ []) (hns : req.path.all noSlash = true) :
    serveHTTP C V h ⟨String.ofList ('/' :: joinSlash req.path), urlPath, req⟩ = serveSegs C V h req := by
  have := serveHTTP_under_prefix C V h req urlPath hne hns
  rw [hp, slash_toList] at this
  exact this

/-- Path prefix: a server built with `NewPrefixedServer(p)` answers a request under the (normalised)
prefix exactly as the plain server answers the request without it — whatever the prefix, the
filters and the registrations. -/
theorem c05_mounting_invariant_prefix (C : Consts) (hlit : C.prefixIsLiteral = false)
    (V : String → Bool) (p : String) (fs : List FilterKind) (regs : List (List Seg × Reg)) (req : Req) (urlPath : String)
    (hne : req.path ≠ []) (hns : req.path.all noSlash = true) :
    serveHTTP C V (registerAll (newPrefixedServer C p fs) regs).handler
        ⟨String.ofList ((normalisePrefix p).toList ++ joinSlash req.path), urlPath, req⟩ =
      serveSegs C V (registerAll (newServer C fs) regs).handler req := by
  have hpfx : (newPrefixedServer C p fs).pfx = normalisePrefix p := by simp [newPrefixedServer, hlit]
  rw [prefixed_handler, hpfx]
  have h1 := serveHTTP_under_prefix C V { (registerAll (newServer C fs) regs).handler with pfx := normalisePrefix p }
    req urlPath hne hns
  exact h1

/-- ServeMux: mounted through `AddToMux` (exact and subtree pattern per root resource), the server
answers every request without empty or dot segments as the bare handler does. -/
theorem c05_mounting_invariant_mux (C : Consts) (ht : C.muxPatterns = [false, true])
    (V : String → Bool) (s : Server) (req : Req)
    (hp : s.pfx = "/") (hne : req.path ≠ []) (hns : req.path.all noSlash = true)
    (hseg : ∀ x ∈ req.path, x ≠ "" ∧ x ≠ "." ∧ x ≠ "..") :
    ((addToMux C s).serve C V ⟨String.ofList ('/' :: joinSlash req.path), String.ofList ('/' :: joinSlash req.path), req⟩).outcome =
      some (serveSegs C V s.handler req) := by
  obtain ⟨r, rest, hpath⟩ := List.exists_cons_of_ne_nil hne
  have hbare := c05_mounting_invariant_bare C V s.handler req (String.ofList ('/' :: joinSlash req.path))
    (by simp [Server.handler, hp]) hne hns
  have hsplit := splitSlash_joinSlash req.path hne hns
  have hdots : (req.path.any fun x => x == "." || x == "..") = false :=
    List.any_eq_false.mpr fun x hx => by simp [(hseg x hx).2]
  have hempty : (req.path.dropLast.any fun x => x == "") = false :=
    List.any_eq_false.mpr fun x hx => by simp [(hseg x (List.dropLast_subset _ hx)).1]
  -- on such a path the mux neither redirects nor gives up; under prefix `/` its patterns are `[n.name]`,
  -- exact and subtree, for every root `n`
  simp only [Mux.serve, String.toList_ofList, stripPrefix, if_true, hsplit, hdots, hempty, Bool.false_eq_true,
    if_false, addToMux, hp, slash_toList, splitSlash_slash, ht]
  simp only [List.filter, bne_self_eq_false, List.nil_append, List.any_flatMap, List.map_cons, List.map_nil,
    List.any_cons, List.any_nil, Bool.or_false, Bool.not_false, Bool.true_and, Bool.not_true, Bool.false_and,
    Bool.false_or, Bool.or_self, hbare]
  -- exact pattern: the path is the root itself; subtree pattern: the path starts with the root
  have hexact : ∀ n : Node, ([n.name] == req.path) = (n.name == r && rest.isEmpty) := by
    intro n; rw [hpath]; cases rest <;> simp
  have hsub : ∀ n : Node, isPrefixSegs [n.name] req.path = (n.name == r) := by
    intro n; rw [hpath]; simp [isPrefixSegs]
  simp only [hexact, hsub]
  cases hf : findSub r s.roots with
  | some n =>
    have hany : (s.roots.any fun n => n.name == r) = true := by rw [any_name_eq_findSub_isSome, hf]; rfl
    cases hre : rest.isEmpty
    · simp [hre, hany, MuxResult.outcome]
    · simp [hre, hany, MuxResult.outcome]
  | none =>
    have hany : (s.roots.any fun n => n.name == r) = false := by rw [any_name_eq_findSub_isSome, hf]; rfl
    have hany2 : ∀ b : Bool, (s.roots.any fun n => n.name == r && b) = false := fun b =>
      List.any_eq_false.mpr fun x hx => by simp [List.any_eq_false.mp hany x hx]
    simp only [hany, hany2, Bool.false_eq_true, if_false, MuxResult.outcome]
    simp [serveSegs, routeX, hpath, handler_roots, hf, Consts.stRootNotFound]

/-- (F6, fixed in /repo) `NewPrefixedServer("/api")` with a collection `coll`: `GET /api/coll/1` is served, `GET /coll/1` is not. -/
theorem c05_prefix_witness :
    (serveHTTP constsV2 validateRor2Input
      (registerAll (newPrefixedServer constsV2 "/api" []) [([("coll", true)], .method .get)]).handler
      ⟨"/api/coll/1", "/api/coll/1", witnessReq .GET none [] []⟩).status = 200 ∧
    (serveHTTP constsV2 validateRor2Input
      (registerAll (newPrefixedServer constsV2 "/api" []) [([("coll", true)], .method .get)]).handler
      ⟨"/coll/1", "/coll/1", witnessReq .GET none [] []⟩).status = 404 := by
  decide +kernel

/-- (MUX, fixed in /repo) a collection `coll` mounted through `AddToMux`: `GET /coll/1` reaches the handler. -/
theorem c05_mux_witness :
    (((addToMux constsV2 (registerAll (newServer constsV2 []) [([("coll", true)], .method .get)])).serve constsV2
      validateRor2Input ⟨"/coll/1", "/coll/1", witnessReq .GET none [] []⟩).outcome.map Outcome.status) = some 200 := by
  decide +kernel

/-- `Handler()` copies the tree: as values, the handler's roots are the server's roots at that moment -/
theorem c05_handler_is_snapshot (s : Server) : s.handler.roots = s.roots := handler_roots s

/-- Later registrations and a handler obtained before them: in this value model the handler is a value
that registrations on the server cannot reach, so the statement below holds by `rfl` and says no more
than `c05_handler_is_snapshot`. That the Go `clone` shares no map with the server, which is what makes
the value model adequate, is checked by the harness on the real objects. -/
theorem c05_late_registration_invisible (C : Consts) (V : String → Bool) (s : Server)
    (late : List (List Seg × Reg)) (req : Req) :
    let h := s.handler
    let _s' := registerAll s late
    serveSegs C V h req = serveSegs C V s.handler req ∧ h.roots = s.roots :=
  ⟨rfl, handler_roots s⟩

example : nodesOk witnessTree = true := by decide +kernel
/-- GET /coll/1 is routed to `get` with key `1` -/
example : route constsV2 validateRor2Input witnessTree (witnessReq .GET none ["coll", "1"] []) =
    .routed ⟨.get, [("coll", true)], ["1"], none, none⟩ := by decide +kernel
example : Guards witnessTree (witnessReq .GET none ["coll", "1"] []) := by decide +kernel
example : specified validateRor2Input witnessTree (witnessReq .GET none ["coll", "1"] []) = true := by decide +kernel
/-- GET /coll?q=byName is routed to the finder, the sub-resource is reached through the key -/
example : route constsV2 validateRor2Input witnessTree (witnessReq .GET none ["coll"] [("q", "byName")]) =
    .routed ⟨.finder, [("coll", true)], [], some "byName", none⟩ := by decide +kernel
example : route constsRoot validateRor2Input witnessTree (witnessReq .GET none ["coll", "7", "sub"] []) =
    .routed ⟨.get, [("coll", true), ("sub", false)], ["7"], none, none⟩ := by decide +kernel
/-- POST without the header is refused with 400, an unknown sub-resource with 404 -/
example : route constsV2 validateRor2Input witnessTree (witnessReq .POST none ["coll"] []) = .reject 400 := by decide +kernel
example : route constsV2 validateRor2Input witnessTree (witnessReq .GET none ["coll", "7", "nosuch"] []) = .reject 404 := by decide +kernel
/-- two filters, the second adding a context value: pre 0, pre 1, the method, post 1, post 0 -/
example : (serveSegs constsV2 validateRor2Input ⟨"/", [.pass, .ctx], witnessTree⟩
    (witnessReq .GET none ["coll", "1"] [])).events.map Event.tag =
    [.pre 0, .pre 1, .inv, .post 1, .post 0] := by decide +kernel
/-- a refusing filter ends the request before the method -/
example : (serveSegs constsV2 validateRor2Input ⟨"/", [.pass, .failPre, .ctx], witnessTree⟩
    (witnessReq .GET none ["coll", "1"] [])).events.map Event.tag = [.pre 0, .pre 1] := by decide +kernel
/-- the guards of the mounting theorems are satisfiable -/
example : constsV2.prefixIsLiteral = false ∧ constsRoot.prefixIsLiteral = false := by decide +kernel
example : constsV2.muxPatterns = [false, true] ∧ constsRoot.muxPatterns = [false, true] := by decide +kernel
example : normalisePrefix "/api" = "/api/" := by decide +kernel

end Restli.Routing
