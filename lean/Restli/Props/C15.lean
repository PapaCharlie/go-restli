import Restli.Proofs.HttpUrl
import Restli.Gen.Tables
/-! # C15 — request URL construction preserves resolver base, resource path and query

Model: `Model/HttpUrl.lean` (`formatQueryUrl`, the re-parse in
`http.NewRequestWithContext`; one model for the v2 and root copies, which are textually identical)
over `Lib/Url.lean` (a model of Go's `net/url`, validated against the real package on every run —
trusted, not verified). Specification: `Spec/HttpUrl.lean`.

Two kinds of hypotheses, kept apart:
* the property's quantifier and its own exclusion — `Base.wf`, `resourcePathOk`, `queryText`,
  `RootOnlyLast` (contexts holding the root name as a complete non-final segment are left
  unspecified by the property text);
* **guards forced by defects of the current code** (DESIGN §7 F13) — `NoDotSegments`,
  `FirstRootIsLast`. Without them the statement is false; the witnesses are below and were confirmed
  on the real client. -/
namespace Restli.HttpUrl
open Restli Restli.Url Restli.HttpUrlSpec

/-- C15 for one input: the base URL text parses, a request URL is built, and what
`http.NewRequest` stores satisfies the specification's `Preserved` on `Scheme`, `Host`,
`EscapedPath()`, `RawQuery`, `String()` and `RequestURI()`. -/
def UrlPreserved (b : Base) (root rp : Bytes) (q : Option Bytes) : Prop :=
  match parse b.text with
  | .ok base =>
    match requestUrl base root rp q with
    | .ok u => Preserved b root rp q u.scheme u.host (escapedPath u) u.rawQuery (Url.toString u) (requestURI u)
    | _ => False
  | _ => False

instance (b : Base) (root rp : Bytes) (q : Option Bytes) : Decidable (UrlPreserved b root rp q) := by
  unfold UrlPreserved
  split
  · split
    · infer_instance
    · exact isFalse id
  · exact isFalse id

/-- The full-strength statement of C15 over the property's quantifier. It is FALSE for the current
code (`c15_url_preserved_false`). -/
def C15Full : Prop :=
  ∀ (b : Base) (root rp : Bytes) (q : Option Bytes), b.wf = true → resourcePathOk root rp = true →
    queryText (q.getD []) = true → RootOnlyLast b.segs root → UrlPreserved b root rp q

/-- **C15 under the two guards.** Inside the property's quantifier — `Base.wf`: no authority, or a
scheme and a registered-name host[:port] (no IPv6 literal, userinfo, `%` or non-ASCII byte: the
`net/url` model declines those), context segments of encoded text, optional trailing slash;
`resourcePathOk`; `queryText` — and its own exclusion `RootOnlyLast`, under guard 1 and guard 2 the
request URL carries the resolver's scheme (lower-cased, as `url.Parse` stores it) and host, and its
escaped path, query, URL text and request target are byte for byte the expected ones. Guard 1 is
about the whole expected path, context included: `ResolveReference` cleans the joined path, so a
base such as `http://host/a/../b` is outside the theorem too. No bound on any length. -/
theorem c15_url_preserved_partial (b : Base) (root rp : Bytes) (q : Option Bytes)
    (hwf : b.wf = true) (hrp : resourcePathOk root rp = true) (hq : queryText (q.getD []) = true)
    (hex : RootOnlyLast b.segs root)
    (g1 : NoDotSegments (expectedPath b.segs root rp)) (g2 : FirstRootIsLast b.segs root) :
    UrlPreserved b root rp q := by
  obtain ⟨base, u, r', hparse, hreq, hexp, hpa, hauth⟩ :=
    requestUrl_cut b root rp q hwf hrp hq hex (by rw [cutSegs_of_guard g2]; exact g1)
  rw [cutSegs_of_guard g2] at hexp
  have hexp' : expectedPath b.segs root rp = cSlash :: r' := hexp
  simp only [UrlPreserved, hparse, hreq]
  refine ⟨hpa.scheme, hpa.host, by rw [hpa.esc, hexp'], hpa.rq, ?_, ?_⟩
  · rw [toString_parsed u _ _ r' q hpa hauth, expectedText_eq b hwf, hexp']
  · rw [requestURI_parsed u _ _ r' q hpa, hexp']

/-- **Guard 2 cannot be weakened where guard 1 plays no part.** Inside the property's quantifier,
whenever `FirstRootIsLast` fails and the un-cut path has no dot segment, the property fails: the
context is not cut and the root segment is sent twice. -/
theorem c15_guard2_necessary (b : Base) (root rp : Bytes) (q : Option Bytes)
    (hwf : b.wf = true) (hrp : resourcePathOk root rp = true) (hq : queryText (q.getD []) = true)
    (hex : RootOnlyLast b.segs root) (g1 : NoDotSegments (joinSegs b.segs ++ rp))
    (hng : ¬ FirstRootIsLast b.segs root) :
    ¬ UrlPreserved b root rp q := by
  obtain ⟨hcut, hlast⟩ := cutSegs_of_not_guard hng
  obtain ⟨base, u, r', hparse, hreq, hexp, hpa, _⟩ :=
    requestUrl_cut b root rp q hwf hrp hq hex (by rw [hcut]; exact g1)
  rw [hcut] at hexp
  simp only [UrlPreserved, hparse, hreq]
  intro hp
  have h1 := hp.path_exact
  rw [hpa.esc, ← hexp] at h1
  simp only [expectedPath, hlast, if_true] at h1
  have h2 := congrArg List.length h1
  obtain ⟨l, hl⟩ := List.getLast?_eq_some_iff.1 hlast
  rw [hl] at h2
  simp [joinSegs] at h2
  omega

/-- No input whatsoever makes `formatQueryUrl` panic: the byte access
`resolvedPath[idx+len(root)+1]` is always in range, and the modelled `net/url` has no panicking
branch. -/
theorem c15_no_panic (hostUrl : URL) (root rp : Bytes) (q : Option Bytes) :
    formatQueryUrl hostUrl root rp q ≠ .panic :=
  formatQueryUrl_no_panic hostUrl root rp q

/-- Tie to the real encoders (tables regenerated from `path_writer.go` / `query_writer.go` of both
modules): every byte `Ror2PathEscape` leaves unescaped is a `wireByte` of the resource-path grammar
and none is `/`; every byte `Ror2QueryEscape` leaves unescaped is allowed by `queryText`. -/
theorem c15_encoder_alphabets_in_grammar :
    (∀ c ∈ Gen.pathSafe ++ GenRoot.pathSafe, wireByte c = true ∧ c ≠ 47) ∧
    (∀ c ∈ Gen.querySafe ++ GenRoot.querySafe, queryText [c] = true) := by
  decide +kernel

/-! ## Witnesses: the unguarded statement is false (each confirmed on the real client by `bin/check C15`) -/

def bytesOf (s : String) : Bytes := s.toUTF8.toList

def httpHost (segs : List String) (trail : Bool := false) : Base :=
  { authority := some { scheme := bytesOf "http", name := bytesOf "host", port := [], hasPort := false },
    segs := segs.map bytesOf, trailingSlash := trail }

/-- Guard 1 is needed: base `http://host/api` and a resource path with a `..` segment (a
hand-written `ResourcePath`; the generated clients write a key that is exactly `.` or `..` as
`%2E` / `%2E%2E`): the request goes to `/api/` instead of `/api/coll/..`. -/
theorem c15_dot_segment_cex :
    ¬ UrlPreserved (httpHost ["api"]) (bytesOf "coll") (bytesOf "/coll/..") (some (bytesOf "q=f")) := by
  decide +kernel

/-- Guard 1 is needed for a single dot too: with no context, `/coll/./x` is sent as `/coll/x`. -/
theorem c15_single_dot_cex :
    ¬ UrlPreserved (httpHost []) (bytesOf "coll") (bytesOf "/coll/./x") none := by
  decide +kernel

/-- Guard 2 is needed: context `/collX/coll` ends in the root, but `strings.Index` finds `/coll`
first inside `/collX`, so nothing is cut and the root segment appears twice
(`/collX/coll/coll/1` instead of `/collX/coll/1`). -/
theorem c15_first_occurrence_cex :
    ¬ UrlPreserved (httpHost ["collX", "coll"]) (bytesOf "coll") (bytesOf "/coll/1") (some (bytesOf "q=f")) := by
  decide +kernel

/-- The full-strength statement fails on the current code. -/
theorem c15_url_preserved_false : ¬ C15Full := by
  intro h
  exact c15_dot_segment_cex (h (httpHost ["api"]) (bytesOf "coll") (bytesOf "/coll/..") (some (bytesOf "q=f"))
    (by decide +kernel) (by decide +kernel) (by decide +kernel) (by decide +kernel))

/-! ## Non-vacuity -/

/-- a base with upper-case scheme, host:port, a multi-segment context (one segment with a `%XX`
triple) ending in the root, and a trailing slash -/
def sampleBase : Base :=
  { authority := some { scheme := bytesOf "HTTPS", name := bytesOf "example.com", port := bytesOf "8080", hasPort := true },
    segs := [bytesOf "api", bytesOf "v%32", bytesOf "coll"], trailingSlash := true }
def sampleRp : Bytes := bytesOf "/coll/a%2Fb%3F%23%3B%25/%2E%2E//(k:1,l:'')"
def sampleQ : Option Bytes := some (bytesOf "q=find&x=(a:1)&y=%25?z")

example : sampleBase.wf = true := by decide +kernel
example : resourcePathOk (bytesOf "coll") sampleRp = true := by decide +kernel
example : queryText (sampleQ.getD []) = true := by decide +kernel
example : RootOnlyLast sampleBase.segs (bytesOf "coll") := by decide +kernel
example : NoDotSegments (expectedPath sampleBase.segs (bytesOf "coll") sampleRp) := by decide +kernel
example : FirstRootIsLast sampleBase.segs (bytesOf "coll") := by decide +kernel
/-- the URL text `http.NewRequest` is given for the sample: scheme lower-cased, the context's
trailing root segment and slash dropped, everything else byte for byte -/
example : (match parse sampleBase.text with
    | .ok base => (match requestUrl base (bytesOf "coll") sampleRp sampleQ with
      | .ok u => Url.toString u | _ => [])
    | _ => []) =
    bytesOf "https://example.com:8080/api/v%32/coll/a%2Fb%3F%23%3B%25/%2E%2E//(k:1,l:'')?q=find&x=(a:1)&y=%25?z" := by
  decide +kernel

/-- a context whose last segment merely shares a prefix with the root is inside the theorem -/
example : FirstRootIsLast (httpHost ["api", "collX"]).segs (bytesOf "coll") ∧
    RootOnlyLast (httpHost ["api", "collX"]).segs (bytesOf "coll") := by decide +kernel
/-- a host-less base with empty context, no query -/
example : UrlPreserved { authority := none, segs := [], trailingSlash := false } (bytesOf "coll") (bytesOf "/coll") none := by
  decide +kernel

end Restli.HttpUrl
