import Restli.Proofs.Url
import Restli.Model.HttpUrl
/-! `formatQueryUrl` and the re-parse in `http.NewRequestWithContext` (`Model.HttpUrl`) on inputs of the
C15 quantifier: what the `strings.Index` block keeps of the context, and that the rest of the pipeline
is the identity on the joined text. -/
namespace Restli.HttpUrl
open Restli Restli.Url Restli.HttpUrlSpec

theorem segText_unfold (s : Bytes) (h : segText s = true) : s ≠ [] ∧ pathText s = true ∧ cSlash ∉ s := by
  simpa [segText, and_assoc] using h

theorem pathText_append (a b : Bytes) (ha : pathText a = true) (hb : pathText b = true) :
    pathText (a ++ b) = true := by
  refine pathText_induction (motive := fun a => pathText (a ++ b) = true) hb ?_ ?_ a ha
  · intro x y rest hx hy _ ih
    simp only [List.cons_append, pathText_pct, hx, hy, ih, Bool.and_self]
  · intro c rest hc hw _ ih
    simp only [List.cons_append, pathText_byte c _ hc, hw, ih, Bool.and_self]

theorem pathText_slash (s : Bytes) (h : pathText s = true) : pathText (cSlash :: s) = true := by
  rw [pathText_byte _ _ (by decide), h]; rfl

theorem seg_head (s t : Bytes) (hs : segText s = true) : (s ++ t).head? ≠ some cSlash := by
  obtain ⟨hne, _, hns⟩ := segText_unfold s hs
  obtain ⟨c, cs, rfl⟩ := List.exists_cons_of_ne_nil hne
  exact fun e => hns (by simp [← Option.some.inj e])

theorem joinSegs_cons (s : Bytes) (rest : List Bytes) : joinSegs (s :: rest) = cSlash :: s ++ joinSegs rest := by
  simp [joinSegs]

theorem joinSegs_append (a b : List Bytes) : joinSegs (a ++ b) = joinSegs a ++ joinSegs b := by
  simp [joinSegs]

theorem pathText_joinSegs (segs : List Bytes) (h : ∀ s ∈ segs, segText s = true) :
    pathText (joinSegs segs) = true := by
  induction segs with
  | nil => rfl
  | cons s rest ih =>
    rw [joinSegs_cons]
    have hs := segText_unfold s (h s (by simp))
    have := ih (fun x hx => h x (by simp [hx]))
    exact pathText_append (cSlash :: s) _ (pathText_slash s hs.2.1) this

theorem joinSegs_head (segs : List Bytes) : joinSegs segs = [] ∨ ∃ t, joinSegs segs = cSlash :: t := by
  cases segs with
  | nil => exact Or.inl rfl
  | cons s rest => exact Or.inr ⟨_, joinSegs_cons s rest⟩

theorem seg_last (a s : Bytes) (hs : segText s = true) : (a ++ s).getLast? ≠ some cSlash :=
  getLast?_append_ne a s cSlash (segText_unfold s hs).1 (segText_unfold s hs).2.2

theorem getLast?_append_joinSegs (a : Bytes) (segs : List Bytes) (ha : a.getLast? ≠ some cSlash)
    (h : ∀ s ∈ segs, segText s = true) : (a ++ joinSegs segs).getLast? ≠ some cSlash := by
  induction segs generalizing a with
  | nil => simpa [joinSegs] using ha
  | cons s rest ih =>
    rw [joinSegs_cons, List.cons_append, List.append_cons, ← List.append_assoc]
    exact ih _ (seg_last _ s (h s (by simp))) fun x hx => h x (List.mem_cons_of_mem _ hx)

theorem trimSuffixSlash_snoc (t : Bytes) : trimSuffixSlash (t ++ [cSlash]) = t := by
  simp [trimSuffixSlash]

theorem trimSuffixSlash_id (t : Bytes) (h : t.getLast? ≠ some cSlash) : trimSuffixSlash t = t := by
  simp [trimSuffixSlash, h]

theorem resolvedPath_ctx (b : URL) (segs : List Bytes) (trail : Bool)
    (hsegs : ∀ s ∈ segs, segText s = true)
    (hb : escapedPath b = joinSegs segs ++ (if trail then [cSlash] else [])) :
    resolvedPath b = if segs = [] then [cSlash] else joinSegs segs := by
  simp only [resolvedPath, hb]
  cases segs with
  | nil => cases trail <;> rfl
  | cons s rest =>
    rw [joinSegs_cons]
    simp only [List.cons_append, trimPrefixSlash, beq_self_eq_true, if_true, List.cons_ne_nil, if_false]
    cases trail with
    | true => rw [if_pos rfl, trimSuffixSlash_snoc]
    | false =>
      have hl := getLast?_append_joinSegs s rest (seg_last [] s (hsegs s (by simp)))
        fun x hx => hsegs x (List.mem_cons_of_mem _ hx)
      rw [if_neg nofun, List.append_nil, trimSuffixSlash_id _ hl]

theorem isPrefixOf_seg (root sk t : Bytes) (hroot : cSlash ∉ root)
    (ht : t = [] ∨ ∃ t', t = cSlash :: t') : root.isPrefixOf (sk ++ t) = root.isPrefixOf sk := by
  induction root generalizing sk with
  | nil => simp
  | cons r rs ih =>
    have ⟨hr, hrs⟩ := List.ne_and_not_mem_of_not_mem_cons hroot
    cases sk with
    | nil =>
      rcases ht with rfl | ⟨t', rfl⟩
      · simp
      · simp [List.isPrefixOf, Ne.symm hr]
    | cons c sk' => simp [List.isPrefixOf, ih sk' hrs]

theorem indexOf_skip (p0 : UInt8) (pr s t : Bytes) (hs : p0 ∉ s) :
    indexOf (p0 :: pr) (s ++ t) = (indexOf (p0 :: pr) t).map (· + s.length) := by
  induction s with
  | nil => simp
  | cons c cs ih =>
    have ⟨hc, hcs⟩ := List.ne_and_not_mem_of_not_mem_cons hs
    rw [List.cons_append, indexOf, if_neg (by simp [List.isPrefixOf, hc]), ih hcs, Option.map_map]
    rfl

/-- one step of `strings.Index` over a segmented context: the pattern `"/"+root` matches at a
segment boundary or not inside that segment at all -/
theorem indexOf_seg (root : Bytes) (hroot : cSlash ∉ root) (s t : Bytes) (hs : cSlash ∉ s)
    (ht : t = [] ∨ ∃ t', t = cSlash :: t') :
    indexOf (cSlash :: root) (cSlash :: s ++ t) =
      if root.isPrefixOf s then some 0 else (indexOf (cSlash :: root) t).map (· + (s.length + 1)) := by
  simp only [List.cons_append, indexOf, List.isPrefixOf, beq_self_eq_true, Bool.true_and]
  rw [isPrefixOf_seg root s _ hroot ht, indexOf_skip cSlash root s _ hs, Option.map_map]
  rfl

/-- segments none of which starts with the root name are skipped whole -/
theorem indexOf_joinSegs_skip (root : Bytes) (hroot : cSlash ∉ root) (pre : List Bytes)
    (hpre : ∀ s ∈ pre, segText s = true) (hno : ∀ s ∈ pre, root.isPrefixOf s = false) (t : Bytes)
    (ht : t = [] ∨ ∃ t', t = cSlash :: t') :
    indexOf (cSlash :: root) (joinSegs pre ++ t) =
      (indexOf (cSlash :: root) t).map (· + (joinSegs pre).length) := by
  induction pre with
  | nil => simp [joinSegs]
  | cons s rest ih =>
    have ht' : joinSegs rest ++ t = [] ∨ ∃ t', joinSegs rest ++ t = cSlash :: t' := by
      rcases joinSegs_head rest with e | ⟨x, e⟩
      · rw [e]; exact ht
      · rw [e]; exact Or.inr ⟨_, rfl⟩
    rw [joinSegs_cons, List.append_assoc, indexOf_seg root hroot s _ (segText_unfold s (hpre s (by simp))).2.2 ht',
      hno s (by simp), ih (fun x hx => hpre x (by simp [hx])) (fun x hx => hno x (by simp [hx]))]
    cases indexOf (cSlash :: root) t with
    | none => rfl
    | some n => simp; omega

/-- the `strings.Index` block once the first occurrence of `"/"+root` is known: the context is cut
there iff the occurrence ends the context or is followed by `/` -/
theorem stripRoot_at (root pre rest : Bytes)
    (hidx : indexOf (cSlash :: root) (pre ++ cSlash :: root ++ rest) = some pre.length) :
    stripRoot (pre ++ cSlash :: root ++ rest) root =
      .ok (if rest = [] ∨ rest.head? = some cSlash then pre else pre ++ cSlash :: root ++ rest) := by
  have hlen : (pre ++ cSlash :: root).length = pre.length + root.length + 1 := by
    simp [Nat.add_assoc]
  have htake : (pre ++ cSlash :: root ++ rest).take pre.length = pre := by
    rw [List.append_assoc]; exact List.take_left' rfl
  simp only [stripRoot, hidx, htake]
  cases rest with
  | nil => simp [hlen]
  | cons c t =>
    have hne : ((pre ++ cSlash :: root ++ c :: t).length == pre.length + root.length + 1) = false := by
      rw [List.length_append, hlen]; simp
    have hget : (pre ++ cSlash :: root ++ c :: t)[pre.length + root.length + 1]? = some c := by
      rw [← hlen, List.getElem?_append_right (Nat.le_refl _), Nat.sub_self]; rfl
    simp only [hne, hget, List.head?_cons, reduceCtorEq, false_or, Option.some.injEq, beq_iff_eq, Bool.false_eq_true,
      if_false]
    split <;> rfl

/-- the `strings.Index` block, when some context segment starts with the root name: the context is
cut before the FIRST such segment iff that segment IS the root name -/
theorem stripRoot_some (root : Bytes) (hroot : cSlash ∉ root) (pre : List Bytes) (sk : Bytes)
    (post : List Bytes) (hsegs : ∀ s ∈ pre ++ sk :: post, segText s = true)
    (hno : ∀ s ∈ pre, root.isPrefixOf s = false) (hsk : root.isPrefixOf sk = true) :
    stripRoot (joinSegs (pre ++ sk :: post)) root =
      .ok (if sk = root then joinSegs pre else joinSegs (pre ++ sk :: post)) := by
  obtain ⟨x, rfl⟩ : ∃ x, sk = root ++ x := (List.isPrefixOf_iff_prefix.1 hsk).imp fun _ => Eq.symm
  have hskf := segText_unfold _ (hsegs (root ++ x) (by simp))
  have hshape : joinSegs (pre ++ (root ++ x) :: post) = joinSegs pre ++ cSlash :: root ++ (x ++ joinSegs post) := by
    simp [joinSegs_append, joinSegs_cons]
  have hidx : indexOf (cSlash :: root) (joinSegs pre ++ cSlash :: root ++ (x ++ joinSegs post)) =
      some (joinSegs pre).length := by
    rw [← hshape, joinSegs_append, indexOf_joinSegs_skip root hroot pre (fun s hs => hsegs s (by simp [hs])) hno _
      (Or.inr ⟨_, joinSegs_cons _ _⟩), joinSegs_cons, indexOf_seg root hroot _ _ hskf.2.2 (joinSegs_head post), hsk]
    simp
  rw [hshape, stripRoot_at root _ _ hidx]
  cases x with
  | nil =>
    have : joinSegs post = [] ∨ (joinSegs post).head? = some cSlash :=
      (joinSegs_head post).imp id fun ⟨t, ht⟩ => by rw [ht]; rfl
    simp [this]
  | cons c x' =>
    have hc : c ≠ cSlash := fun e => hskf.2.2 (by simp [e])
    simp [hc]

/-- what the `strings.Index` block keeps of a context inside the property's own exclusion: the
trailing root segment goes iff no earlier segment starts with the root name -/
def cutSegs (segs : List Bytes) (root : Bytes) : List Bytes :=
  if segs.getLast? = some root ∧ ∀ s ∈ segs.dropLast, root.isPrefixOf s = false then segs.dropLast else segs

/-- under guard 2 (`FirstRootIsLast`) `cutSegs` drops a trailing root segment and nothing else, as the
property asks -/
theorem cutSegs_of_guard {segs : List Bytes} {root : Bytes} (hg : FirstRootIsLast segs root) :
    cutSegs segs root = if segs.getLast? = some root then segs.dropLast else segs := by
  by_cases h : segs.getLast? = some root
  · rw [cutSegs, if_pos ⟨h, hg h⟩, if_pos h]
  · rw [cutSegs, if_neg fun hh => h hh.1, if_neg h]

/-- when guard 2 (`FirstRootIsLast`) fails, the context ends in the root and `cutSegs` leaves it whole -/
theorem cutSegs_of_not_guard {segs : List Bytes} {root : Bytes} (hng : ¬ FirstRootIsLast segs root) :
    cutSegs segs root = segs ∧ segs.getLast? = some root := by
  simp only [FirstRootIsLast, Decidable.not_imp_iff_and_not] at hng
  exact ⟨if_neg fun hh => hng.2 hh.2, hng.1⟩

theorem cutSegs_subset (segs : List Bytes) (root : Bytes) : ∀ s ∈ cutSegs segs root, s ∈ segs := by
  intro s hs
  rw [cutSegs] at hs
  split at hs
  · exact List.dropLast_subset _ hs
  · exact hs

theorem stripRoot_joinSegs (root : Bytes) (hroot : cSlash ∉ root) (segs : List Bytes)
    (hsegs : ∀ s ∈ segs, segText s = true) (hex : RootOnlyLast segs root) :
    stripRoot (joinSegs segs) root = .ok (joinSegs (cutSegs segs root)) := by
  have hself : root.isPrefixOf root = true := List.isPrefixOf_iff_prefix.2 (List.prefix_refl _)
  unfold cutSegs
  -- split the context at the first segment that starts with the root name, if there is one
  cases hf : segs.find? (root.isPrefixOf ·) with
  | none =>
    have hnone : ∀ s ∈ segs, root.isPrefixOf s = false := fun s hs =>
      Bool.eq_false_iff.2 (List.find?_eq_none.1 hf s hs)
    have hl : segs.getLast? ≠ some root := fun e => by
      simpa [hself] using hnone root (List.mem_of_getLast? e)
    have hidx : indexOf (cSlash :: root) (joinSegs segs) = none := by
      simpa [indexOf] using indexOf_joinSegs_skip root hroot segs hsegs hnone [] (Or.inl rfl)
    simp only [stripRoot, hidx, hl, false_and, if_false]
  | some sk =>
    obtain ⟨hsk, pre, post, rfl, hpre⟩ := List.find?_eq_some_iff_append.1 hf
    have hpre : ∀ s ∈ pre, root.isPrefixOf s = false := by simpa only [Bool.not_eq_true'] using hpre
    rw [stripRoot_some root hroot pre sk post hsegs hpre hsk]
    cases post with
    | nil => simp [and_iff_left hpre, apply_ite joinSegs]
    | cons p ps =>
      have hmem : sk ∈ (pre ++ sk :: p :: ps).dropLast := by
        rw [List.dropLast_append_of_ne_nil (by simp)]; simp [List.dropLast]
      have : ¬ ∀ s ∈ (pre ++ sk :: p :: ps).dropLast, root.isPrefixOf s = false := fun h =>
        Bool.false_ne_true ((h sk hmem).symm.trans hsk)
      simp only [hex sk hmem, this, and_false, if_false]

theorem resourcePathOk_unfold (root rp : Bytes) (h : resourcePathOk root rp = true) :
    segText root = true ∧ pathText rp = true ∧ ∃ tail, rp = cSlash :: (root ++ tail) := by
  simp only [resourcePathOk, Bool.and_eq_true] at h
  obtain ⟨⟨hroot, hp⟩, hm⟩ := h
  refine ⟨hroot, hp, ?_⟩
  cases rp with
  | nil => simp at hm
  | cons c r =>
    simp only [Bool.and_eq_true, beq_iff_eq] at hm
    obtain ⟨x, hx⟩ := List.isPrefixOf_iff_prefix.1 hm.1.2
    exact ⟨x, by rw [hm.1.1, hx]⟩

/-- context segments followed by text that, if there are no segments, itself starts with exactly one
`/`: the whole starts with exactly one `/` -/
theorem joinSegs_append_singleSlash (segs : List Bytes) (hsegs : ∀ s ∈ segs, segText s = true) (t : Bytes)
    (ht : segs = [] → ∃ t', t = cSlash :: t' ∧ t'.head? ≠ some cSlash) :
    ∃ r, joinSegs segs ++ t = cSlash :: r ∧ r.head? ≠ some cSlash := by
  cases segs with
  | nil => exact ht rfl
  | cons s rest =>
    refine ⟨s ++ (joinSegs rest ++ t), by simp [joinSegs_cons], seg_head s _ (hsegs s (by simp))⟩

theorem joinSegs_append_rp_singleSlash (segs : List Bytes) (hsegs : ∀ s ∈ segs, segText s = true) (root tail : Bytes)
    (hroot : segText root = true) (hp : pathText (cSlash :: (root ++ tail)) = true) :
    ∃ r', joinSegs segs ++ cSlash :: (root ++ tail) = cSlash :: r' ∧ OneSlash r' := by
  obtain ⟨r', e, h⟩ := joinSegs_append_singleSlash segs hsegs _ fun _ => ⟨root ++ tail, rfl, seg_head root tail hroot⟩
  exact ⟨r', e, h, e ▸ pathText_append _ _ (pathText_joinSegs segs hsegs) hp⟩

theorem queryPath_eq (rp : Bytes) (q : Option Bytes) :
    queryPath rp q = rp ++ queryPart q := by
  cases q <;> simp [queryPath, queryPart]

/-- `formatQueryUrl` on inputs of the property's quantifier inside its own exclusion, provided the
path it joins (the context as `cutSegs` leaves it, then the resource path) has no dot segment; that
path starts with exactly one `/` -/
theorem formatQueryUrl_ok (b : URL) (segs : List Bytes) (trail : Bool) (root rp : Bytes) (q : Option Bytes)
    (hsegs : ∀ s ∈ segs, segText s = true)
    (hb : escapedPath b = joinSegs segs ++ (if trail then [cSlash] else []))
    (hrp : resourcePathOk root rp = true) (hq : queryText (q.getD []) = true)
    (hex : RootOnlyLast segs root) (hd : NoDotSegments (joinSegs (cutSegs segs root) ++ rp)) :
    ∃ u r', formatQueryUrl b root rp q = .ok u ∧ joinSegs (cutSegs segs root) ++ rp = cSlash :: r' ∧
      OneSlash r' ∧ ParsedAs u b.scheme b.host (cSlash :: r') q := by
  obtain ⟨hroot, hp, tail, rfl⟩ := resourcePathOk_unfold root rp hrp
  obtain ⟨r', e', hr'⟩ :=
    joinSegs_append_rp_singleSlash _ (fun x hx => hsegs x (cutSegs_subset segs root x hx)) root tail hroot hp
  rw [e'] at hd
  -- the reference parsed from the resource path and query
  obtain ⟨u0, hu0, hpa0⟩ := parse_pathOnly (root ++ tail) q ⟨seg_head root tail hroot, hp⟩ hq
  unfold formatQueryUrl
  simp only [queryPath_eq, hu0, resolvedPath_ctx b segs trail hsegs hb]
  cases segs with
  | nil =>
    obtain rfl : root ++ tail = r' := (List.cons.inj e').2
    exact ⟨_, _, rfl, rfl, hr', resolveReference_pathOnly b u0 _ q hpa0 hp hd⟩
  | cons s rest =>
    have hs := segText_unfold s (hsegs s (by simp))
    have hne : (joinSegs (s :: rest) == [cSlash]) = false := by simp [joinSegs_cons, hs.1]
    simp only [List.cons_ne_nil, if_false, hne, Bool.false_eq_true,
      stripRoot_joinSegs root (segText_unfold root hroot).2.2 _ hsegs hex]
    rw [requestURI_parsed u0 [] [] (root ++ tail) q hpa0]
    obtain ⟨u1, hu1, hpa1⟩ := parse_pathOnly r' q hr' hq
    have : joinSegs (cutSegs (s :: rest) root) ++ (cSlash :: (root ++ tail) ++ queryPart q) =
        cSlash :: r' ++ queryPart q := by
      rw [← List.append_assoc, e']
    simp only [urlParse, this, hu1]
    exact ⟨_, r', rfl, e', hr', resolveReference_pathOnly b u1 _ q hpa1 hr'.text hd⟩

theorem lowerByte_eq (c : UInt8) : toLowerByte c = lowerByte c := rfl

/-- lower-casing leaves a byte alone or turns it into a lower-case letter, which it then leaves alone -/
theorem lowerByte_cases (c : UInt8) :
    lowerByte c = c ∨ (alpha (lowerByte c) = true ∧ lowerByte (lowerByte c) = lowerByte c) := by
  by_cases h : (65 ≤ c && c ≤ 90) = true
  · have h' : 97 ≤ c + 32 ∧ c + 32 ≤ 122 := by
      simp only [Bool.and_eq_true, decide_eq_true_eq, UInt8.le_iff_toNat_le, UInt8.toNat_add] at h ⊢
      simp at h ⊢
      omega
    have hn : ¬ (65 ≤ c + 32 && c + 32 ≤ 90) = true := fun e => by
      simp only [Bool.and_eq_true, decide_eq_true_eq] at e
      exact absurd (UInt8.le_trans h'.1 e.2) (by decide)
    right
    simp only [lowerByte, if_pos h, if_neg hn, alpha, h'.1, h'.2, decide_true, Bool.and_self, Bool.true_or, and_self]
  · exact Or.inl (if_neg h)

theorem schemeText_lower (s : Bytes) (hs : schemeText s = true) :
    schemeText (s.map lowerByte) = true ∧ (s.map lowerByte).map toLowerByte = s.map lowerByte := by
  constructor
  · cases s with
    | nil => cases hs
    | cons c r =>
      simp only [schemeText, Bool.and_eq_true, List.all_eq_true, List.map_cons, List.mem_map] at hs ⊢
      refine ⟨?_, ?_⟩
      · rcases lowerByte_cases c with e | h
        · rw [e]; exact hs.1
        · exact h.1
      · rintro x ⟨y, hy, rfl⟩
        rcases lowerByte_cases y with e | h
        · rw [e]; exact hs.2 y hy
        · simp only [schemeByte, h.1, Bool.true_or]
  · rw [List.map_map]
    refine List.map_congr_left fun c _ => ?_
    -- the model's `toLowerByte` is the specification's `lowerByte`
    rw [Function.comp_apply, lowerByte_eq]
    rcases lowerByte_cases c with e | h
    · exact congrArg lowerByte e
    · exact h.2

theorem ctx_pathText_singleSlash (b : Base) (hsegs : ∀ s ∈ b.segs, segText s = true) :
    pathText b.ctx = true ∧ (b.ctx = [] ∨ ∃ r, b.ctx = cSlash :: r ∧ r.head? ≠ some cSlash) := by
  obtain ⟨auth, segs, trail⟩ := b
  constructor
  · apply pathText_append _ _ (pathText_joinSegs segs hsegs)
    cases trail <;> rfl
  · by_cases h : segs = [] ∧ trail = false
    · obtain ⟨rfl, rfl⟩ := h
      exact Or.inl rfl
    · refine Or.inr (joinSegs_append_singleSlash segs hsegs _ fun e => ?_)
      cases trail with
      | false => exact absurd ⟨e, rfl⟩ h
      | true => exact ⟨[], rfl, nofun⟩

theorem base_parse (b : Base) (hwf : b.wf = true) :
    ∃ u, parse b.text = .ok u ∧ u.scheme = b.scheme ∧ u.host = b.host ∧ escapedPath u = b.ctx ∧
      AuthGood b.scheme b.host := by
  simp only [Base.wf, Bool.and_eq_true, List.all_eq_true] at hwf
  obtain ⟨hauth, hsegs⟩ := hwf
  obtain ⟨hpt, hshape⟩ := ctx_pathText_singleSlash b hsegs
  cases ha : b.authority with
  | none =>
    simp only [Base.text, Base.scheme, Base.host, ha, List.nil_append]
    rcases hshape with h0 | ⟨r, hr, hh⟩
    · rw [h0]
      exact ⟨{}, parse_nil, rfl, rfl, by decide, AuthGood.none⟩
    · rw [hr] at hpt ⊢
      obtain ⟨u, hu, hpa⟩ := parse_pathOnly r none ⟨hh, hpt⟩ (by decide)
      simp only [queryPart, List.append_nil] at hu
      exact ⟨u, hu, hpa.scheme, hpa.host, hpa.esc, AuthGood.none⟩
  | some a =>
    simp only [ha, Authority.wf, Bool.and_eq_true] at hauth
    have hg := hostGood_of_spec a hauth.2
    obtain ⟨u, hu, hpa⟩ := parse_withAuthority a.scheme a.host b.ctx none hauth.1 hg hpt
      (hshape.imp id fun ⟨r, hr, _⟩ => ⟨r, hr⟩) (by decide)
    obtain ⟨hl1, hl2⟩ := schemeText_lower a.scheme hauth.1
    simp only [Base.text, Base.scheme, Base.host, ha, Authority.text]
    simp only [queryPart, List.append_nil] at hu
    exact ⟨u, by simpa using hu, hpa.scheme, hpa.host, hpa.esc, AuthGood.some _ _ hl1 hl2 hg⟩

/-- `http.NewRequestWithContext` re-parses `u.String()`: nothing changes -/
theorem httpRequestUrl_ok (u : URL) (s h r : Bytes) (q : Option Bytes) (hu : ParsedAs u s h (cSlash :: r) q)
    (hauth : AuthGood s h) (hr : OneSlash r)
    (hq : queryText (q.getD []) = true) :
    ∃ u', httpRequestUrl (toString u) = .ok u' ∧ ParsedAs u' s h (cSlash :: r) q := by
  rw [toString_parsed u s h r q hu hauth]
  obtain ⟨u1, hu1, hpa1⟩ := parse_auth s h r q hauth hr hq
  exact ⟨{ u1 with host := removeEmptyPort u1.host }, by simp only [httpRequestUrl, hu1],
    hpa1.scheme, by rw [hpa1.host]; exact hauth.removeEmptyPort_eq, hpa1.esc, hpa1.noOmit,
    hpa1.fq, hpa1.rq, hpa1.pathNil⟩

theorem expectedText_eq (b : Base) (hwf : b.wf = true) (root rp : Bytes) (q : Option Bytes) :
    expectedText b root rp q =
      (if b.scheme = [] then [] else b.scheme ++ [cColon, cSlash, cSlash] ++ b.host)
        ++ expectedPath b.segs root rp ++ queryPart q := by
  obtain ⟨auth, segs, trail⟩ := b
  cases auth with
  | none => simp [expectedText, Base.scheme]
  | some a =>
    simp only [Base.wf, Authority.wf, Bool.and_eq_true] at hwf
    have : a.scheme.map lowerByte ≠ [] := by simpa using schemeText_ne a.scheme hwf.1.1
    simp [expectedText, Base.scheme, Base.host, this]

/-- The whole pipeline (`url.Parse` of the base, `formatQueryUrl`, re-parse in `http.NewRequest`) on
every input of the property's quantifier inside its own exclusion, guard 2 or not: the request URL is
the base's scheme and host, the context as `cutSegs` leaves it, the resource path and the query,
provided that path has no dot segment. -/
theorem requestUrl_cut (b : Base) (root rp : Bytes) (q : Option Bytes)
    (hwf : b.wf = true) (hrp : resourcePathOk root rp = true) (hq : queryText (q.getD []) = true)
    (hex : RootOnlyLast b.segs root) (hd : NoDotSegments (joinSegs (cutSegs b.segs root) ++ rp)) :
    ∃ base u r', parse b.text = .ok base ∧ requestUrl base root rp q = .ok u ∧
      joinSegs (cutSegs b.segs root) ++ rp = cSlash :: r' ∧ ParsedAs u b.scheme b.host (cSlash :: r') q ∧
      AuthGood b.scheme b.host := by
  obtain ⟨base, hparse, hsch, hhost, hesc, hauth⟩ := base_parse b hwf
  have hsegs : ∀ s ∈ b.segs, segText s = true := by
    simp only [Base.wf, Bool.and_eq_true, List.all_eq_true] at hwf; exact hwf.2
  obtain ⟨u1, r', hu1, hexp, hr', hpa1⟩ :=
    formatQueryUrl_ok base b.segs b.trailingSlash root rp q hsegs hesc hrp hq hex hd
  rw [hsch, hhost] at hpa1
  obtain ⟨u2, hu2, hpa2⟩ := httpRequestUrl_ok u1 _ _ r' q hpa1 hauth hr' hq
  exact ⟨base, u2, r', hparse, by simp only [requestUrl, hu1, hu2], hexp, hpa2, hauth⟩

theorem indexOf_le (pat s : Bytes) (i : Nat) (h : indexOf pat s = some i) : i + pat.length ≤ s.length := by
  induction s generalizing i with
  | nil =>
    rw [indexOf] at h
    split at h
    · next hp => cases h; simp [List.isEmpty_iff.1 hp]
    · cases h
  | cons c cs ih =>
    rw [indexOf] at h
    split at h
    · next hp => cases h; simpa using (List.isPrefixOf_iff_prefix.1 hp).length_le
    · obtain ⟨j, hj, rfl⟩ := Option.map_eq_some_iff.1 h
      have := ih j hj
      simp; omega

/-- the byte access `resolvedPath[idx+len(root)+1]` is in range: `strings.Index` found the whole of
`"/"+root` inside the text, and the text is not exhausted by it -/
theorem stripRoot_no_panic (resolved root : Bytes) : stripRoot resolved root ≠ .panic := by
  unfold stripRoot
  split
  · simp
  · next idx hidx =>
    have hle := indexOf_le _ _ _ hidx
    simp only [List.length_cons] at hle
    split
    · simp
    · next hne =>
      have hlt : idx + root.length + 1 < resolved.length := by
        have : resolved.length ≠ idx + root.length + 1 := by simpa using hne
        omega
      rw [List.getElem?_eq_getElem hlt]
      simp only []
      split <;> simp

theorem formatQueryUrl_no_panic (hostUrl : URL) (root rp : Bytes) (q : Option Bytes) :
    formatQueryUrl hostUrl root rp q ≠ .panic := by
  unfold formatQueryUrl
  split
  · simp only []
    split
    · simp
    · split
      · simp only [urlParse]
        split
        · simp
        · simp
        · simp
        · next h => exact absurd h (parse_no_panic _)
      · simp
      · simp
      · next h => exact absurd h (stripRoot_no_panic _ _)
  · simp
  · simp
  · next h => exact absurd h (parse_no_panic _)

end Restli.HttpUrl
