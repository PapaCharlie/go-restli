import Restli.Model.Encode
import Restli.Proofs.PathSpecPanic
/-! The two places where the codec asks the exclusion spec about a field, once per key: the
writer's `WriteMap` (an excluded key is visited but not emitted) and the epilogue of `readRecord`
shared by every reader (an excluded required field is not reported missing). -/
namespace Restli.Codec

/-- one round of `WriteMap`, whatever encodes the entry (`e`) and the entries after it (`rest`):
the key is emitted iff it is not excluded. `encodeKeyed` and `encodeTyped` are both this step
iterated. -/
theorem emitted_keys_cons {excluded : Bytes → Bool} {k : Bytes} {ks : List Bytes}
    (e : Except EncErr Doc) (rest : Except EncErr (List (Bytes × Doc)))
    (ih : ∀ more, rest = .ok more → more.map (·.1) = ks.filter (fun k => !excluded k))
    (r : List (Bytes × Doc))
    (h : (do let d ← e; let more ← rest; if excluded k then pure more else pure ((k, d) :: more)) = .ok r) :
    r.map (·.1) = (k :: ks).filter (fun k => !excluded k) := by
  cases e with
  | error _ => cases h
  | ok d =>
    cases rest with
    | error _ => cases h
    | ok more =>
      have hm := ih more rfl
      cases hx : excluded k
      · simp only [bind, Except.bind, hx] at h; cases h; simp [hx, hm]
      · simp only [bind, Except.bind, hx] at h; cases h; simp [hx, hm]

theorem missingAfter_eq {tr : Tracker} {scope : List Seg} {fields : List Field} {seen m₀ : List Bytes} :
    missingAfter tr scope fields seen m₀ =
      m₀ ++ ((remainingRequired fields seen).filter (fun r => tr.check (scope ++ [.key r]) != .yes)).map
        ((let sc := scopeString scope; if sc.isEmpty then sc else sc ++ [46]) ++ ·) := rfl

theorem finishRecord_nested {env : Env} {tr : Tracker} {scope : List Seg}
    {fields own : List Field} {fs : List (Bytes × Value)} {seen m₀ : List Bytes} :
    finishRecord env tr scope false fields own fs seen m₀ =
      .ok (.record (populateDefaults own (fillRequired env fields fs))) (missingAfter tr scope fields seen m₀) := by
  unfold finishRecord
  rw [finishPanics_false]
  rfl

theorem finishRecord_top {env : Env} {tr : Tracker} {scope : List Seg}
    {fields own : List Field} {fs : List (Bytes × Value)} {seen m₀ : List Bytes} :
    finishRecord env tr scope true fields own fs seen m₀ =
      if (missingAfter tr scope fields seen m₀).isEmpty
      then .ok (.record (populateDefaults own (fillRequired env fields fs))) []
      else .missingErr (missingAfter tr scope fields seen m₀) (.record (fillRequired env fields fs)) := by
  unfold finishRecord
  rw [finishPanics_false]
  cases missingAfter tr scope fields seen m₀ <;> rfl

end Restli.Codec
