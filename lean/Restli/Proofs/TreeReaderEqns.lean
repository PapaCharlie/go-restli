import Restli.Model.TreeReader
/-! Equations of the tree reader (Model/TreeReader.lean): `bindT` is associative, and one step of the
entries loop on a present, non-null member (`treeReadEntries_cons`, through the record/union body
`treeMapBody`). -/
namespace Restli.Codec
open Json (JVal)

theorem bindT_assoc {α β γ : Type} (r : TRes α) (f : α → List Bytes → TRes β) (g : β → List Bytes → TRes γ) :
    bindT (bindT r f) g = bindT r fun v m => bindT (f v m) g := by
  cases r <;> rfl

/-- what `ReadMap` yields on a tree, for the callback of a map, record or union -/
def treeMapBody (c : TCfg) (scope : List Seg) (mode : MapMode) :
    JVal → TRes (List (Bytes × Value) × List Bytes)
  | .null => .ok ([], []) []
  | .obj kvs => treeReadEntries c scope mode [] [] kvs
  | _ => .err .syntax

theorem treeReadEntries_cons (c : TCfg) (scope : List Seg) (mode : MapMode) (acc : List (Bytes × Value))
    (seen : List Bytes) (k0 : Bytes) (v : JVal) (more : List (Bytes × JVal)) (hv : v ≠ .null) :
    treeReadEntries c scope mode acc seen ((k0, v) :: more) =
      (match c.sem.key k0 with
       | none => .err .syntax
       | some k =>
         match c.tracker.check (scope ++ [.key k]) with
         | .panic => .panic
         | .yes => .err (.excluded (scopeString (scope ++ [.key k])))
         | .no =>
           bindT (treeCallbackWith (fun ty => treeRead c false (scope ++ [.key k]) ty v) mode acc seen k)
             (fun acc' m1 => bindT (treeReadEntries c scope mode acc' (seen ++ [k]) more)
               (fun res m2 => .ok res (m1 ++ m2)))) := by
  cases v with
  | null => exact absurd rfl hv
  | _ => rfl

end Restli.Codec
