import Restli.Model.Ror2Reader
/-! Lookup in a field list that is only appended to, which is all `populateDefaults` (the generated
`populateLocalDefaultValues`) does to a record's fields: a key the document set is still what
`List.lookup` finds, and a key it did not set is found with the default appended for it. -/
namespace Restli.Codec

def hasKey (fs : List (Bytes × Value)) (k : Bytes) : Bool := fs.any (·.1 == k)

theorem lookup_append_of_hasKey (fs extra : List (Bytes × Value)) (k : Bytes) (h : hasKey fs k = true) :
    List.lookup k (fs ++ extra) = List.lookup k fs := by
  rw [List.lookup_append]
  cases hl : List.lookup k fs with
  | some v => rfl
  | none =>
    obtain ⟨p, hp, hpk⟩ := List.any_eq_true.1 h
    have := List.lookup_eq_none_iff.1 hl p hp
    rw [beq_iff_eq.1 hpk, bne_self_eq_false] at this
    cases this

theorem lookup_append_new (fs : List (Bytes × Value)) (k : Bytes) (d : Value) (h : hasKey fs k = false) :
    List.lookup k (fs ++ [(k, d)]) = some d := by
  have hnone : List.lookup k fs = none :=
    List.lookup_eq_none_iff.2 fun p hp => bne_iff_ne.2 fun e => List.any_eq_false.1 h p hp (beq_iff_eq.2 e.symm)
  rw [List.lookup_append, hnone, List.lookup_cons, beq_self_eq_true]
  rfl

end Restli.Codec
