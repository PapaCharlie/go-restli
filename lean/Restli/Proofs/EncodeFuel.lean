import Restli.Proofs.EncodeLoops
/-! The depth budget of the writer model is an artefact (the Go writer recurses over the value): a
document produced at some budget is produced at every larger one. -/
namespace Restli.Codec

theorem slotEnc_mono {c : EncCfg} {f g : Nat} {scope : List Bytes}
    (ih : ∀ scope ty v d, encode c f scope ty v = .ok d → encode c g scope ty v = .ok d)
    (k : Bytes) (t : Ty) (v : Value) (d : Doc) (h : slotEnc c f scope k t v = .ok d) :
    slotEnc c g scope k t v = .ok d := by
  unfold slotEnc at h ⊢
  split
  · next hx => rwa [if_pos hx] at h
  · next hx => rw [if_neg hx] at h; exact ih _ _ _ _ h

theorem encode_fuel_step (c : EncCfg) (f : Nat) : ∀ (scope : List Bytes) (ty : Ty) (v : Value) (d : Doc),
    encode c f scope ty v = .ok d → encode c (f + 1) scope ty v = .ok d := by
  induction f with
  | zero => intro _ _ _ _ h; cases h
  | succ f ih =>
    intro scope ty v d h
    have hslot := fun k t v d => slotEnc_mono (scope := scope) ih k t v d
    -- both sides to the `match ty, v`; splitting `h` then instantiates the goal's as well
    unfold encode at h ⊢
    split at h
    · exact h
    · next t vs =>
      exact bind_ok_mono (encodeList_sim (all2_same _ vs fun v _ => ih _ _ v)) (fun _ h => h) h
    · next t es =>
      exact bind_ok_mono (encodeKeyed_sim (all2_same _ es fun e _ => ⟨rfl, hslot _ _ _⟩)) (fun _ h => h) h
    · split at h
      · exact h
      · exact h
      · exact h
      · split at h
        · cases h
        · next triples _ =>
          exact bind_ok_mono (encodeTyped_sim (all2_same _ triples fun e _ => ⟨rfl, hslot _ _ _⟩))
            (fun _ h => h) h
      · split at h
        · cases h
        · split at h
          · cases h
          · next h1 h2 =>
            rw [if_neg h1, if_neg h2]
            exact bind_ok_mono (encodeTyped_sim (all2_same _ _ fun e _ => ⟨rfl, hslot _ _ _⟩))
              (fun _ h => h) h
      · cases h
    · cases h

end Restli.Codec
