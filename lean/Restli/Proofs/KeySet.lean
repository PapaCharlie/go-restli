import Restli.Model.KeySet
import Restli.Proofs.Equals
import Restli.Proofs.SortKeys
/-! The batch key set (`Model/KeySet.lean`) under its representation invariant `Good`: what `AddKey`,
`LocateOriginalKey`, the `ids` encoding and the response reader do on a well-formed set. -/
namespace Restli.KeySet
open Restli

variable {α V : Type}

theorem pairwise_concat {β : Type} {R : β → β → Prop} {l : List β} {x : β} (hl : l.Pairwise R)
    (hx : ∀ a ∈ l, R a x) : (l ++ [x]).Pairwise R :=
  List.pairwise_append.2 ⟨hl, List.pairwise_singleton R x, fun a ha _ hb => List.mem_singleton.1 hb ▸ hx a ha⟩

theorem find?_unique {β : Type} {R : β → β → Prop} {p : β → Bool} {xs : List β} {k : β}
    (hpw : xs.Pairwise R) (hk : k ∈ xs) (hp : p k = true)
    (hex : ∀ a ∈ xs, ∀ b ∈ xs, R a b → p a = true → p b = true → False) : xs.find? p = some k := by
  obtain ⟨as, bs, rfl⟩ := List.append_of_mem hk
  refine List.find?_eq_some_iff_append.2 ⟨hp, as, bs, rfl, fun a ha => ?_⟩
  cases hpa : p a with
  | false => rfl
  | true =>
    exact (hex a (List.mem_append_left _ ha) k hk
      ((List.pairwise_append.1 hpw).2.2 a ha k List.mem_cons_self) hpa hp).elim

section Buckets
variable {h h' : UInt32} {b b' : List (Key α)} {bs : List (UInt32 × List (Key α))}

theorem bucketOf_cons : bucketOf h ((h', b) :: bs) = if h' = h then b else bucketOf h bs := by
  simp only [bucketOf, beq_iff_eq]

theorem setBucket_cons : setBucket h b ((h', b') :: bs) = if h' = h then (h, b) :: bs else (h', b') :: setBucket h b bs := by
  simp only [setBucket, beq_iff_eq]

theorem bucketOf_eq_lookup : bucketOf h bs = (bs.lookup h).getD [] := by
  induction bs with
  | nil => rfl
  | cons hb rest ih =>
    obtain ⟨h', b⟩ := hb
    rw [bucketOf, List.lookup_cons, ih, BEq.comm]
    cases h == h' <;> rfl

theorem bucketOf_pair_mem {k : Key α} (hk : k ∈ bucketOf h bs) : (h, bucketOf h bs) ∈ bs := by
  rw [bucketOf_eq_lookup] at hk ⊢
  cases hl : bs.lookup h with
  | none => rw [hl] at hk; cases hk
  | some b => exact lookup_mem hl

theorem bucketOf_of_mem (hn : (bs.map (·.1)).Nodup) (hm : (h, b) ∈ bs) : bucketOf h bs = b := by
  rw [bucketOf_eq_lookup, lookup_of_mem hn hm]
  rfl

theorem mem_setBucket (hn : (bs.map (·.1)).Nodup) {hb : UInt32 × List (Key α)} (hm : hb ∈ setBucket h b bs) :
    hb = (h, b) ∨ (hb ∈ bs ∧ hb.1 ≠ h) := by
  induction bs with
  | nil => exact .inl (List.mem_singleton.1 hm)
  | cons x rest ih =>
    obtain ⟨h', b'⟩ := x
    have hn' := List.nodup_cons.1 hn
    rw [setBucket_cons] at hm
    split at hm
    · next e =>
      rcases List.mem_cons.1 hm with rfl | hin
      · exact .inl rfl
      · exact .inr ⟨List.mem_cons_of_mem _ hin, fun e2 => hn'.1 (List.mem_map.2 ⟨hb, hin, e2.trans e.symm⟩)⟩
    · next e =>
      rcases List.mem_cons.1 hm with rfl | hin
      · exact .inr ⟨List.mem_cons_self, e⟩
      · exact (ih hn'.2 hin).imp_right fun ⟨h1, h2⟩ => ⟨List.mem_cons_of_mem _ h1, h2⟩

theorem setBucket_nodup (hn : (bs.map (·.1)).Nodup) : ((setBucket h b bs).map (·.1)).Nodup := by
  induction bs with
  | nil => exact List.nodup_cons.2 ⟨nofun, List.nodup_nil⟩
  | cons x rest ih =>
    obtain ⟨h', b'⟩ := x
    have hn' := List.nodup_cons.1 hn
    rw [setBucket_cons]
    split
    · next e => exact e ▸ hn
    · next e =>
      refine List.nodup_cons.2 ⟨fun hm => ?_, ih hn'.2⟩
      obtain ⟨hb, hin, e'⟩ := List.mem_map.1 hm
      rcases mem_setBucket hn'.2 hin with rfl | ⟨h1, _⟩
      · exact e e'.symm
      · exact hn'.1 (List.mem_map.2 ⟨hb, h1, e'⟩)

theorem setBucket_allKeys_perm {t : Key α} :
    ((setBucket h (bucketOf h bs ++ [t]) bs).flatMap (·.2)).Perm (t :: bs.flatMap (·.2)) := by
  induction bs with
  | nil => exact .refl _
  | cons x rest ih =>
    obtain ⟨h', b'⟩ := x
    rw [setBucket_cons, bucketOf_cons]
    split
    · rw [List.flatMap_cons, List.flatMap_cons, List.append_assoc]
      exact List.perm_middle
    · rw [List.flatMap_cons, List.flatMap_cons]
      exact (List.Perm.append_left b' ih).trans List.perm_middle

end Buckets

theorem mem_allKeys {s : GenericSet α} {k : Key α} :
    k ∈ s.allKeys ↔ ∃ hb ∈ s.buckets, k ∈ hb.2 := by
  simp [GenericSet.allKeys, List.mem_flatMap]

/-- hashes of the buckets are distinct and every key sits in the bucket of its own hash -/
structure BucketsWF (O : KeyOps α) (bs : List (UInt32 × List (Key α))) : Prop where
  nodup : (bs.map (·.1)).Nodup
  hash : ∀ hb ∈ bs, ∀ k ∈ hb.2, O.hash k.val = hb.1

/-- inside a bucket, a later key is not `equals` to an earlier one (what `AddKey` checked) -/
def BucketsSep (O : KeyOps α) (bs : List (UInt32 × List (Key α))) : Prop :=
  ∀ hb ∈ bs, hb.2.Pairwise (fun a b => O.eq b.val a.val = false)

/-- the representation invariant of a key set built by `AddKey` calls -/
structure Good (O : KeyOps α) (s : GenericSet α) : Prop where
  wf : BucketsWF O s.buckets
  sep : BucketsSep O s.buckets
  count : s.keyCount = s.allKeys.length

variable {O : KeyOps α} {s s' : GenericSet α} {t : Key α}

theorem mem_allKeys_of_bucket {h : UInt32} {k : Key α} (hk : k ∈ bucketOf h s.buckets) : k ∈ s.allKeys :=
  mem_allKeys.2 ⟨_, bucketOf_pair_mem hk, hk⟩

/-- every bucket — an absent one reads as the empty one — holds pairwise inequivalent keys -/
theorem Good.bucketOf_pairwise (g : Good O s) (h : UInt32) :
    (bucketOf h s.buckets).Pairwise (fun a b => O.eq b.val a.val = false) := by
  by_cases hne : bucketOf h s.buckets = []
  · rw [hne]; exact List.Pairwise.nil
  · obtain ⟨k, hk⟩ := List.exists_mem_of_ne_nil _ hne
    exact g.sep _ (bucketOf_pair_mem hk)

theorem good_empty (O : KeyOps α) : Good O (GenericSet.empty : GenericSet α) :=
  ⟨⟨by simp [GenericSet.empty], by simp [GenericSet.empty]⟩, by simp [BucketsSep, GenericSet.empty],
   by simp [GenericSet.empty, GenericSet.allKeys]⟩

theorem mem_allKeys_iff_bucket (g : Good O s) {k : Key α} :
    k ∈ s.allKeys ↔ k ∈ bucketOf (O.hash k.val) s.buckets := by
  rw [mem_allKeys]
  constructor
  · intro ⟨⟨h, b⟩, hin, hk⟩
    have := g.wf.hash (h, b) hin k hk
    simp only at this hk
    rw [this, bucketOf_of_mem g.wf.nodup hin]
    exact hk
  · exact fun hk => mem_allKeys.1 (mem_allKeys_of_bucket hk)

theorem addKey_eq_none_iff (O : KeyOps α) (s : GenericSet α) (t : Key α) :
    addKey O s t = none ↔ ∃ k ∈ bucketOf (O.hash t.val) s.buckets, O.eq t.val k.val = true := by
  simp [addKey]

theorem addKey_allKeys_perm (h : addKey O s t = some s') : s'.allKeys.Perm (t :: s.allKeys) := by
  simp only [addKey] at h
  split at h
  · simp at h
  · simp only [Option.some.injEq] at h
    subst h
    exact setBucket_allKeys_perm

theorem good_addKey (g : Good O s)
    (h : addKey O s t = some s') : Good O s' := by
  have hperm := addKey_allKeys_perm h
  simp only [addKey] at h
  split at h
  · simp at h
  · next hany =>
    simp only [Option.some.injEq] at h
    subst h
    simp only [List.any_eq_true, not_exists, not_and, Bool.not_eq_true] at hany
    refine ⟨⟨setBucket_nodup g.wf.nodup, ?_⟩, ?_, ?_⟩
    · intro hb hin k hk
      rcases mem_setBucket g.wf.nodup hin with rfl | ⟨h1, _⟩
      · simp only [List.mem_append, List.mem_singleton] at hk
        rcases hk with hk | rfl
        · exact g.wf.hash _ (bucketOf_pair_mem hk) k hk
        · rfl
      · exact g.wf.hash hb h1 k hk
    · intro hb hin
      rcases mem_setBucket g.wf.nodup hin with rfl | ⟨h1, _⟩
      · exact pairwise_concat (g.bucketOf_pairwise _) hany
      · exact g.sep hb h1
    · simp only at hperm ⊢
      rw [hperm.length_eq, g.count]
      simp

theorem locate_eq_none {probe : Key α}
    (h : ∀ k ∈ s.allKeys, O.eq k.val probe.val = false) : locate O s probe = none := by
  simp only [locate, List.find?_eq_none]
  intro x hx
  have := h x (mem_allKeys_of_bucket hx)
  simp [this]

/-- Equal keys among `keys` have equal hashes (C10's law `c10_*_equal_implies_same_hash`, restricted to the keys at hand) -/
def HashCongrOn (O : KeyOps α) (keys : List (Key α)) : Prop :=
  ∀ a ∈ keys, ∀ b ∈ keys, O.eq a.val b.val = true → O.hash a.val = O.hash b.val

theorem HashCongrOn.mono {ks ks' : List (Key α)} (h : HashCongrOn O ks)
    (hsub : ∀ k ∈ ks', k ∈ ks) : HashCongrOn O ks' :=
  fun a ha b hb => h a (hsub a ha) b (hsub b hb)

theorem allKeys_sep (g : Good O s) (hc : HashCongrOn O s.allKeys) :
    s.allKeys.Pairwise (fun a b => O.eq b.val a.val = false) := by
  -- inside a bucket by the invariant; across buckets the hashes differ, so the keys are not Equal
  refine List.pairwise_flatMap.2
    ⟨g.sep, (List.Pairwise.and_mem.1 (List.pairwise_map.1 g.wf.nodup)).imp ?_⟩
  intro x y ⟨hx, hy, hne⟩ a ha b hb
  cases he : O.eq b.val a.val with
  | false => rfl
  | true =>
    have h1 := hc b (mem_allKeys.2 ⟨y, hy, hb⟩) a (mem_allKeys.2 ⟨x, hx, ha⟩) he
    rw [g.wf.hash x hx a ha, g.wf.hash y hy b hb] at h1
    exact absurd h1.symm hne

theorem addKey_none_iff_dup (g : Good O s) (t : Key α)
    (hc : HashCongrOn O (t :: s.allKeys)) :
    addKey O s t = none ↔ ∃ k ∈ s.allKeys, O.eq t.val k.val = true := by
  rw [addKey_eq_none_iff]
  constructor
  · intro ⟨k, hk, he⟩
    exact ⟨k, mem_allKeys_of_bucket hk, he⟩
  · intro ⟨k, hk, he⟩
    have hh := hc t List.mem_cons_self k (List.mem_cons_of_mem _ hk) he
    refine ⟨k, ?_, he⟩
    rw [hh]
    exact (mem_allKeys_iff_bucket g).1 hk

/-- `AddAllKeys` onto a set whose keys are `ks` (in some order, pairwise inequivalent): it goes
through iff the keys stay pairwise inequivalent when `ts` is appended. Stating it over `ks ++ ts`
makes the step a re-bracketing: adding `t` moves it from the head of `ts` to the end of `ks`. -/
theorem addAllFrom_spec (ts : List (Key α)) (i : Nat) (s : GenericSet α)
    (ks : List (Key α)) (g : Good O s) (hp : s.allKeys.Perm ks)
    (hk : ks.Pairwise (fun a b => O.eq b.val a.val = false)) (hc : HashCongrOn O (ks ++ ts)) :
    ((ks ++ ts).Pairwise (fun a b => O.eq b.val a.val = false) →
      ∃ s', addAllFrom (addKey O) i s ts = .inr s' ∧ Good O s' ∧ s'.allKeys.Perm (ks ++ ts)) ∧
    (¬ (ks ++ ts).Pairwise (fun a b => O.eq b.val a.val = false) →
      ∃ j, addAllFrom (addKey O) i s ts = .inl j) := by
  induction ts generalizing i s ks with
  | nil =>
    rw [List.append_nil]
    exact ⟨fun _ => ⟨s, rfl, g, hp⟩, fun h => absurd hk h⟩
  | cons t ts ih =>
    have hiff := addKey_none_iff_dup g t (hc.mono fun k hk => by
      rcases List.mem_cons.1 hk with rfl | h
      · exact List.mem_append_right _ List.mem_cons_self
      · exact List.mem_append_left _ (hp.mem_iff.1 h))
    rw [addAllFrom]
    cases hadd : addKey O s t with
    | none =>
      obtain ⟨k, hk', he⟩ := hiff.1 hadd
      refine ⟨fun hsep => ?_, fun _ => ⟨i, rfl⟩⟩
      have := (List.pairwise_append.1 hsep).2.2 k (hp.mem_iff.1 hk') t List.mem_cons_self
      rw [he] at this; cases this
    | some s1 =>
      have hnew : ∀ k ∈ ks, O.eq t.val k.val = false := fun k hk' =>
        Bool.eq_false_iff.2 fun he => by
          have := hiff.2 ⟨k, hp.mem_iff.2 hk', he⟩
          rw [hadd] at this; cases this
      have := ih (i + 1) s1 (ks ++ [t]) (good_addKey g hadd)
        ((addKey_allKeys_perm hadd).trans ((hp.cons t).trans (List.perm_append_singleton t ks).symm))
        (pairwise_concat hk hnew) (by rwa [List.append_assoc])
      rwa [List.append_assoc] at this

/-- `sort.Strings`' `≤` is the negation of Go's string `<` the other way round -/
theorem bytesLe_eq_not_lt (a b : Bytes) : bytesLe a b = !Codec.bytesLt b a := by
  induction a generalizing b with
  | nil => cases b <;> rfl
  | cons x xs ih =>
    cases b with
    | nil => rfl
    | cons y ys =>
      rw [bytesLe, Codec.bytesLt, ih ys]
      by_cases hxy : x < y
      · rw [if_pos hxy, if_neg (fun h => UInt8.lt_irrefl x (UInt8.lt_trans hxy h)), if_pos hxy]; rfl
      · by_cases hyx : y < x
        · rw [if_neg hxy, if_pos hyx, if_neg (fun e => by rw [beq_iff_eq.1 e] at hyx; exact UInt8.lt_irrefl _ hyx)]; rfl
        · have e : x = y := UInt8.le_antisymm (UInt8.not_lt.1 hyx) (UInt8.not_lt.1 hxy)
          rw [if_neg hxy, if_neg hyx, if_neg hxy, if_pos (beq_iff_eq.2 e)]

theorem bytesLe_iff (a b : Bytes) : bytesLe a b = true ↔ Codec.bytesLt b a = false := by
  rw [bytesLe_eq_not_lt]; cases Codec.bytesLt b a <;> simp

theorem bytesLe_refl (a : Bytes) : bytesLe a a = true := by
  rw [bytesLe_eq_not_lt, Codec.bytesLt_irrefl]; rfl

theorem bytesLe_total (a b : Bytes) : (bytesLe a b || bytesLe b a) = true := by
  rw [bytesLe_eq_not_lt, bytesLe_eq_not_lt]
  cases h : Codec.bytesLt b a
  · rfl
  · rw [Codec.bytesLt_asymm b a h]; rfl

theorem bytesLe_antisymm (a b : Bytes) (h₁ : bytesLe a b = true) (h₂ : bytesLe b a = true) :
    a = b := by
  rw [bytesLe_iff] at h₁ h₂
  rcases Codec.bytesLt_total a b with h | h | h
  · rw [h₂] at h; cases h
  · exact h
  · rw [h₁] at h; cases h

theorem bytesLe_trans (a b c : Bytes) (h₁ : bytesLe a b = true) (h₂ : bytesLe b c = true) :
    bytesLe a c = true := by
  rw [bytesLe_iff] at h₁ h₂ ⊢
  cases hca : Codec.bytesLt c a
  · rfl
  · -- `c < a` and `¬ b < a` give `c < b`
    rcases Codec.bytesLt_total a b with h | rfl | h
    · rw [Codec.bytesLt_trans c a b hca h] at h₂; cases h₂
    · rw [hca] at h₂; cases h₂
    · rw [h₁] at h; cases h

theorem sortIds_eq_of_perm {l l' : List Bytes} (h : l.Perm l') : isort bytesLe l = isort bytesLe l' :=
  isort_eq_of_perm bytesLe bytesLe_trans bytesLe_total bytesLe_antisymm h

theorem sortIds_sorted (l : List Bytes) : (isort bytesLe l).Pairwise (fun a b => bytesLe a b = true) :=
  isort_pairwise bytesLe bytesLe_trans bytesLe_total l

theorem mapM_encode_some (encode : α → Option Bytes) (enc : α → Bytes) (keys : List (Key α))
    (h : ∀ k ∈ keys, encode k.val = some (enc k.val)) :
    keys.mapM (fun k => encode k.val) = some (keys.map (fun k => enc k.val)) := by
  induction keys with
  | nil => rfl
  | cons k ks ih =>
    have hk := h k List.mem_cons_self
    have ih' := ih (fun x hx => h x (List.mem_cons_of_mem _ hx))
    simp [List.mapM_cons, hk, ih']

theorem mapM_encode_none (encode : α → Option Bytes) (keys : List (Key α))
    (h : ∃ k ∈ keys, encode k.val = none) : keys.mapM (fun k => encode k.val) = none := by
  induction keys with
  | nil => simp at h
  | cons k ks ih =>
    obtain ⟨x, hx, hnone⟩ := h
    simp only [List.mapM_cons]
    cases hk : encode k.val with
    | none => rfl
    | some e =>
      rcases List.mem_cons.1 hx with rfl | hin
      · rw [hnone] at hk; cases hk
      · simp [ih ⟨x, hin, hnone⟩]

/-- inequivalent keys have different encodings -/
def EncInj (O : KeyOps α) (enc : α → Bytes) : Prop := ∀ a b, O.eq a b = false → enc a ≠ enc b

/-- annotated entries: raw key, the original it is located to, the decoded value -/
abbrev AEntry (α V : Type) := Bytes × Key α × V

def AEntry.plain (e : AEntry α V) : Bytes × Option V := (e.1, some e.2.2)
def AEntry.filed (e : AEntry α V) : Key α × V := (e.2.1, e.2.2)

/-- no key of the list is Go-equal to an earlier one -/
def NoRepeat (goEq : Key α → Key α → Bool) (ks : List (Key α)) : Prop :=
  ks.Pairwise (fun a b => goEq a b = false)

/-- an annotated document: every entry carries the original it is located to -/
abbrev ADoc (α V : Type) := List (FieldTag × List (AEntry α V))

def ADoc.plain (d : ADoc α V) : List (FieldTag × List (Bytes × Option V)) :=
  d.map (fun f => (f.1, f.2.map AEntry.plain))

def BatchResponse.get (b : BatchResponse α V) : FieldTag → Option (List (Key α × V))
  | .results => b.results
  | .statuses => b.statuses
  | .errors => b.errors
  | .other => none

def BatchResponse.set (b : BatchResponse α V) (m : List (Key α × V)) : FieldTag → BatchResponse α V
  | .results => { b with results := some m }
  | .statuses => { b with statuses := some m }
  | .errors => { b with errors := some m }
  | .other => b

/-- hypotheses under which a document is read without loss: every raw key is located to its
annotation, no field mentions one original twice, and — where the implementation rejects them
(v2) — there is no member besides the three fields -/
def ADoc.Located (strict : Bool) (locator : Bytes → Except ErrClass (Key α))
    (goEq : Key α → Key α → Bool) (d : ADoc α V) : Prop :=
  ∀ f ∈ d, (f.1 = .other → strict = false) ∧ (f.1 ≠ .other →
    (∀ e ∈ f.2, locator e.1 = .ok e.2.1) ∧ NoRepeat goEq (f.2.map (·.2.1)))

/-- each of the three known fields occurs at most once, and none was met before -/
def FieldsOnce (seen : List FieldTag) : List FieldTag → Prop
  | [] => True
  | t :: rest => (t ≠ .other → t ∉ seen ∧ t ∉ rest) ∧ FieldsOnce seen rest

section Response
variable {strict : Bool} {locator : Bytes → Except ErrClass (Key α)} {goEq : Key α → Key α → Bool}
  {seen : List FieldTag} {b b' : BatchResponse α V} {tag : FieldTag}
  {entries : List (Bytes × Option V)} {rest doc : List (FieldTag × List (Bytes × Option V))}

theorem fillField_ok (m : List (Key α × V)) (es : List (AEntry α V))
    (hloc : ∀ e ∈ es, locator e.1 = .ok e.2.1)
    (hnr : NoRepeat goEq (m.map (·.1) ++ es.map (·.2.1))) :
    fillField locator goEq m (es.map AEntry.plain) = .ok (m ++ es.map AEntry.filed) := by
  induction es generalizing m with
  | nil => simp [fillField]
  | cons e rest ih =>
    obtain ⟨raw, o, v⟩ := e
    have h1 := hloc (raw, o, v) List.mem_cons_self
    simp only at h1
    have hfresh : m.any (fun kv => goEq kv.1 o) = false :=
      List.any_eq_false.2 fun x hx => Bool.eq_false_iff.1
        ((List.pairwise_append.1 hnr).2.2 x.1 (List.mem_map_of_mem hx) o List.mem_cons_self)
    simp only [List.map_cons, AEntry.plain, fillField, h1, hfresh, Bool.false_eq_true, ↓reduceIte]
    have := ih (m ++ [(o, v)]) (fun e he => hloc e (List.mem_cons_of_mem _ he)) (by
      simpa [NoRepeat, List.map_append, List.append_assoc] using hnr)
    rw [this]
    simp [AEntry.filed]

/-- a successful fill located every raw key, refused none, and appended **exactly** the entries
re-keyed by their originals, which are pairwise distinct keys -/
theorem fillField_sound {m m' : List (Key α × V)} (h : fillField locator goEq m entries = .ok m') :
    ∃ es : List (AEntry α V), entries = es.map AEntry.plain ∧
      (∀ e ∈ es, locator e.1 = .ok e.2.1) ∧ m' = m ++ es.map AEntry.filed ∧
      (NoRepeat goEq (m.map (·.1)) → NoRepeat goEq (m'.map (·.1))) := by
  induction entries generalizing m with
  | nil =>
    simp only [fillField, Except.ok.injEq] at h
    subst h
    exact ⟨[], rfl, by simp, by simp, id⟩
  | cons e rest ih =>
    obtain ⟨raw, v⟩ := e
    simp only [fillField] at h
    cases hl : locator raw with
    | error x => simp [hl] at h
    | ok o =>
      simp only [hl] at h
      cases hany : m.any (fun kv => goEq kv.1 o) with
      | true => simp [hany] at h
      | false =>
        simp only [hany, Bool.false_eq_true, ↓reduceIte] at h
        cases v with
        | none => simp at h
        | some v =>
          obtain ⟨es, h1, h2, h3, h4⟩ := ih h
          refine ⟨(raw, o, v) :: es, ?_, ?_, ?_, ?_⟩
          · simp [AEntry.plain, h1]
          · intro e he
            rcases List.mem_cons.1 he with rfl | hin
            · exact hl
            · exact h2 e hin
          · simp [h3, AEntry.filed]
          · intro hm
            apply h4
            rw [List.map_append]
            refine pairwise_concat hm fun a ha => ?_
            obtain ⟨x, hx, rfl⟩ := List.mem_map.1 ha
            simpa using (List.any_eq_false.1 hany) x hx

theorem fillField_error_of_unlocated (locator : Bytes → Except ErrClass (Key α))
    (goEq : Key α → Key α → Bool) (m : List (Key α × V)) (entries : List (Bytes × Option V))
    (h : ∃ e ∈ entries, ∃ x, locator e.1 = .error x) :
    ∃ x, fillField locator goEq m entries = .error x := by
  cases hf : fillField locator goEq m entries with
  | error x => exact ⟨x, rfl⟩
  | ok m' =>
    obtain ⟨es, h1, h2, _, _⟩ := fillField_sound hf
    obtain ⟨e, he, x, hx⟩ := h
    rw [h1] at he
    obtain ⟨a, ha, rfl⟩ := List.mem_map.1 he
    have := h2 a ha
    simp only [AEntry.plain] at hx
    rw [hx] at this
    cases this

theorem BatchResponse.get_set (b : BatchResponse α V) (m : List (Key α × V)) (t t' : FieldTag)
    (ht : t ≠ .other) : (b.set m t).get t' = if t' = t then some m else b.get t' := by
  cases t with
  | other => exact absurd rfl ht
  | _ => cases t' <;> rfl

/-- one step of the field loop, for any of the three known fields -/
theorem unmarshalFields_known (ht : tag ≠ .other) :
    unmarshalFields strict locator goEq seen b ((tag, entries) :: rest) =
      if seen.contains tag then .error .repeatedField else
      match fillField locator goEq [] entries with
      | .error e => .error e
      | .ok m => unmarshalFields strict locator goEq (tag :: seen) (b.set m tag) rest := by
  cases tag with
  | other => exact absurd rfl ht
  | _ =>
    rw [unmarshalFields]
    split
    · rfl
    · cases fillField locator goEq [] entries <;> rfl

theorem FieldsOnce.cons_seen {seen : List FieldTag} {tags : List FieldTag} {t : FieldTag}
    (h : FieldsOnce seen tags) (ht : t ∉ tags) : FieldsOnce (t :: seen) tags := by
  induction tags with
  | nil => trivial
  | cons x rest ih =>
    obtain ⟨htx, htr⟩ := List.ne_and_not_mem_of_not_mem_cons ht
    exact ⟨fun hne => ⟨List.not_mem_cons_of_ne_of_not_mem htx.symm (h.1 hne).1, (h.1 hne).2⟩, ih h.2 htr⟩

theorem unmarshalFields_ok (d : ADoc α V) (seen : List FieldTag) (b : BatchResponse α V)
    (h : d.Located strict locator goEq) (honce : FieldsOnce seen (d.map (·.1))) :
    ∃ b', unmarshalFields strict locator goEq seen b d.plain = .ok b' := by
  induction d generalizing seen b with
  | nil => exact ⟨b, rfl⟩
  | cons f rest ih =>
    obtain ⟨tag, es⟩ := f
    have hrest : ADoc.Located strict locator goEq rest := fun f hf => h f (List.mem_cons_of_mem _ hf)
    have hf := h (tag, es) List.mem_cons_self
    simp only [List.map_cons, FieldsOnce] at honce
    by_cases ht : tag = .other
    · subst ht
      have hs := hf.1 rfl
      subst hs
      simp only [ADoc.plain, List.map_cons, unmarshalFields, Bool.false_eq_true, ↓reduceIte]
      exact ih seen b hrest honce.2
    · obtain ⟨h1, h2⟩ := hf.2 ht
      obtain ⟨hns, hnr⟩ := honce.1 ht
      have hfill := fillField_ok (goEq := goEq) ([] : List (Key α × V)) es h1 (by simpa using h2)
      have hc : seen.contains tag = false := by simpa using hns
      simp only [ADoc.plain, List.map_cons]
      rw [unmarshalFields_known ht]
      simp only [hc, Bool.false_eq_true, ↓reduceIte, hfill]
      exact ih (tag :: seen) _ hrest (honce.2.cons_seen hnr)

/-- a successful run of the field loop over a non-empty document: an unknown member was skipped
(only where that is allowed), or a field not met before was filled and stored -/
theorem unmarshalFields_cons_inv
    (h : unmarshalFields strict locator goEq seen b ((tag, entries) :: rest) = .ok b') :
    (tag = .other ∧ strict = false ∧ unmarshalFields strict locator goEq seen b rest = .ok b') ∨
    (tag ≠ .other ∧ tag ∉ seen ∧ ∃ m, fillField locator goEq [] entries = .ok m ∧
      unmarshalFields strict locator goEq (tag :: seen) (b.set m tag) rest = .ok b') := by
  by_cases ht : tag = .other
  · subst ht
    cases strict
    · exact .inl ⟨rfl, rfl, h⟩
    · cases h
  · rw [unmarshalFields_known ht] at h
    split at h
    · cases h
    · next hs =>
      split at h
      · cases h
      · next m hfill => exact .inr ⟨ht, fun hm => hs (List.contains_iff_mem.2 hm), m, hfill, h⟩

/-- soundness of the field loop: if it succeeds, then (i) fields met before are untouched,
(ii) fields the document does not name are untouched, (iii) every known field of the document was
filled from its entries by `fillField`, starting from the empty map, and holds that result -/
theorem unmarshalFields_sound
    (h : unmarshalFields strict locator goEq seen b doc = .ok b') :
    (∀ t ∈ seen, b'.get t = b.get t) ∧
    (∀ t, t ∉ doc.map (·.1) → b'.get t = b.get t) ∧
    (∀ f ∈ doc, f.1 ≠ .other → ∃ m, fillField locator goEq [] f.2 = .ok m ∧ b'.get f.1 = some m) := by
  induction doc generalizing seen b with
  | nil =>
    cases h
    exact ⟨fun _ _ => rfl, fun _ _ => rfl, nofun⟩
  | cons f rest ih =>
    obtain ⟨tag, entries⟩ := f
    rcases unmarshalFields_cons_inv h with ⟨rfl, rfl, h⟩ | ⟨ht, hns, m1, hfill, h⟩
    · obtain ⟨i1, i2, i3⟩ := ih h
      refine ⟨i1, fun t hnt => i2 t (fun hin => hnt (List.mem_cons_of_mem _ hin)), ?_⟩
      intro f hf hne
      rcases List.mem_cons.1 hf with rfl | hin
      · exact absurd rfl hne
      · exact i3 f hin hne
    · obtain ⟨i1, i2, i3⟩ := ih h
      -- a field other than `tag` that the rest of the loop leaves alone is as in `b`
      have hframe : ∀ t, t ≠ tag → b'.get t = (b.set m1 tag).get t → b'.get t = b.get t :=
        fun t hne e => by rw [e, BatchResponse.get_set _ _ _ _ ht, if_neg hne]
      refine ⟨?_, ?_, ?_⟩
      · exact fun t hts => hframe t (fun e => hns (e ▸ hts)) (i1 t (List.mem_cons_of_mem _ hts))
      · intro t hnt
        exact hframe t (fun e => hnt (e ▸ List.mem_cons_self))
          (i2 t fun hin => hnt (List.mem_cons_of_mem _ hin))
      · intro f hf hne
        rcases List.mem_cons.1 hf with rfl | hin
        · exact ⟨m1, hfill, by rw [i1 tag List.mem_cons_self, BatchResponse.get_set _ _ _ _ ht, if_pos rfl]⟩
        · exact i3 f hin hne

theorem unmarshalWithKeyLocator_inv (h : unmarshalWithKeyLocator strict locator goEq doc = .ok b) :
    unmarshalFields strict locator goEq [] {} doc = .ok b := by
  unfold unmarshalWithKeyLocator at h
  split at h
  · cases h
  · next hf =>
    split at h
    · cases h; exact hf
    · cases h

theorem locateFromReader_inv {decode : Bytes → Option (Key α)} {loc : Key α → Option (Key α)}
    {raw : Bytes} {o : Key α} (h : locateFromReader decode loc raw = .ok o) :
    ∃ p, decode raw = some p ∧ loc p = some o := by
  unfold locateFromReader at h
  split at h
  · cases h
  · next p hd =>
    split at h
    · next hl => cases h; exact ⟨p, hd, hl⟩
    · cases h

end Response

open Restli.Equals in
/-- representation invariant of a primitive key set built by `AddKey`: no key is `==` to an earlier one -/
def PrimGood (s : PrimSet) : Prop := s.keys.Pairwise (fun a b => Prim.eq b.val a.val = false)

theorem primGood_empty : PrimGood ⟨[]⟩ := List.Pairwise.nil

open Restli.Equals in
theorem primGood_addKey {s s' : PrimSet} {t : Key Prim} (g : PrimGood s) (h : s.addKey t = some s') :
    PrimGood s' := by
  simp only [PrimSet.addKey] at h
  split at h
  · cases h
  · next hany =>
    simp only [Option.some.injEq] at h
    subst h
    simp only [List.any_eq_true, not_exists, not_and, Bool.not_eq_true] at hany
    exact pairwise_concat g hany

end Restli.KeySet
