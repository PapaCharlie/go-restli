import Restli.Proofs.EndToEnd
import Restli.Proofs.Ror2RoundTrip
/-! Request-direction codec facts for the end-to-end model, from the byte-level round trips: the
entity keys the generated client writes into the resource path are read back by the generated
`UnmarshalResourcePath` to the caller's keys. -/
namespace Restli.E2E
open Restli Restli.Codec

/-- the path writer's escaper as seen on a value handed to it directly: a string that is exactly
`.` or `..` is written `%2E` / `%2E%2E` -/
def pathEscTop (esc : Bytes → Bytes) (b : Bytes) : Bytes :=
  if b == [46] then [37, 50, 69] else if b == [46, 46] then [37, 50, 69, 37, 50, 69] else esc b

theorem pathEscTop_laws (esc : Bytes → Bytes) (E : EscLaws esc false) : EscLaws (pathEscTop esc) false where
  rt := by
    intro b
    unfold pathEscTop
    split
    · next h =>
      obtain rfl := eq_of_beq h
      decide
    · split
      · next h =>
        obtain rfl := eq_of_beq h
        decide
      · exact E.rt b
  clean := by
    intro b c hc
    unfold pathEscTop at hc
    split at hc
    · revert hc; revert c; decide
    · split at hc
      · revert hc; revert c; decide
      · exact E.clean b c hc
  ne := by
    intro b hb
    unfold pathEscTop
    split
    · simp
    · split
      · simp
      · exact E.ne b hb

/-- what the path writer emits for a value written to it directly is what the underlying writer
emits with the escaper that special-cases dot strings — when the value is a string or bytes — and
with the plain escaper otherwise -/
theorem renderRor2Path_eq (esc : Bytes → Bytes) (d : Doc) :
    renderRor2Path esc d = renderRor2 esc d ∨ renderRor2Path esc d = renderRor2 (pathEscTop esc) d := by
  cases d with
  | str b | bytes b =>
    right
    simp only [renderRor2Path, renderRor2, ror2Str, pathEscTop]
    by_cases h1 : b = [46]
    · subst h1; simp
    · by_cases h2 : b = [46, 46]
      · subst h2; simp
      · by_cases he : b = []
        · subst he; simp
        · simp [h1, h2, he]
  | int _ | f64 _ | bool _ | obj _ | arr _ => left; rfl

/-- one key: `UnmarshalResourcePath`'s reader on the text the path writer produced -/
theorem key_roundtrip (K : Consts) (hs : K.sortKeys = true) (E : EscLaws K.pathEsc false) (F : FloatLaws)
    (env : Env) (S : SchemaOK env) (ty : Ty) (k : Value) (hv : ValOK k) (text : Bytes)
    (ht : pathKeyText K env ty k = some text) :
    ofRes (unmarshalRor2 (pathRCfg env) ty text) = .ok (norm env encFuel ty k) := by
  unfold pathKeyText at ht
  cases henc : encode (wcfg K env) encFuel [] ty k with
  | error e => simp [henc, toOpt] at ht
  | ok doc =>
    simp only [henc, toOpt, Option.map_some, Option.some.injEq] at ht
    subst ht
    have hcfg : ∀ esc' (E' : EscLaws esc' false), (ror2Ctx env esc' false E' F S).cfg = wcfg K env := by
      intro esc' E'
      simp [RTCtx.cfg, ror2Ctx, wcfg, hs]
    have key : ∀ esc' (E' : EscLaws esc' false),
        ofRes (unmarshalRor2 (pathRCfg env) ty (renderRor2 esc' doc)) = .ok (norm env encFuel ty k) := by
      intro esc' E'
      have hwf : RawWF (rawOf esc' doc) := rawOf_wf esc' false E' F _
      have hrt := ror2_roundtrip_any env esc' false E' F S 0 encFuel false [] [] ty k doc
        (3 * (renderRor2 esc' doc).length + 8) (by omega) hv (by rw [hcfg esc' E']; exact henc)
      unfold unmarshalRor2
      have hval : validateRor2 (renderRor2 esc' doc) = true := by
        rw [renderRor2_eq_renderRaw]; exact validate_raw _ hwf
      simp only [hval, Bool.not_true, Bool.false_eq_true, ↓reduceIte]
      have hrc : pathRCfg env = ror2RcQ env false 0 false := rfl
      rw [hrc, hrt]
      simp [ofRes]
    rcases renderRor2Path_eq K.pathEsc doc with h | h
    · rw [h]; exact key K.pathEsc E
    · rw [h]; exact key (pathEscTop K.pathEsc) (pathEscTop_laws K.pathEsc E)

/-- **the keys of a call come back**: the texts the client writes for the entity keys of a resource
path are decoded by the generated `UnmarshalResourcePath` to the caller's keys (normalised), for
every key type of every schema -/
theorem decodeKeys_keyTexts (K : Consts) (hs : K.sortKeys = true) (E : EscLaws K.pathEsc false) (F : FloatLaws)
    (env : Env) (S : SchemaOK env)
    (tys : List Ty) (keys : List Value) (texts : List Bytes) (hv : ∀ k ∈ keys, ValOK k)
    (h : keyTexts K env tys keys = some texts) :
    decodeKeys env tys texts = .ok (List.zipWith (norm env encFuel) tys keys) := by
  fun_induction keyTexts K env tys keys generalizing texts
  · cases h; rfl
  · next ty _ k _ t ts h1 h2 ih =>
    cases h
    simp only [decodeKeys, List.zipWith_cons_cons, key_roundtrip K hs E F env S ty k (hv k (List.mem_cons_self ..)) t h2,
      ih ts (fun x hx => hv x (List.mem_cons_of_mem _ hx)) h1, Dec.bind]
  · simp_all
  · cases h

theorem lastOf_of_nodup (q : List (Bytes × Bytes)) (hnd : (q.map (·.1)).Nodup) (k v : Bytes)
    (hmem : (k, v) ∈ q) : lastOf k q = some v :=
  lookup_of_mem (by rw [List.map_reverse]; exact (List.reverse_perm _).nodup_iff.2 hnd) (List.mem_reverse.2 hmem)

theorem dedupNames_of_nodup : ∀ (q : List (Bytes × Bytes)), (q.map (·.1)).Nodup → dedupNames q = q.map (·.1) := by
  intro q h
  induction q with
  | nil => rfl
  | cons kv rest ih =>
    obtain ⟨k, v⟩ := kv
    simp only [List.map_cons, List.nodup_cons] at h
    have ih := ih h.2
    simp only [dedupNames, ih, List.map_cons]
    have : (rest.map (·.1)).contains k = false := by
      rw [List.contains_eq_mem]; simpa using h.1
    rw [this]; simp

/-- every listed name is a field whose parameter reads back: the entries come back in that order -/
theorem decodeParamFields_all (env : Env) (fields : List Field) (q : List (Bytes × Bytes))
    (hnd : (q.map (·.1)).Nodup) :
    ∀ (ts : List (Bytes × Bytes × Value)),
      (∀ t ∈ ts, (t.1, t.2.1) ∈ q ∧ ∃ f, findField fields t.1 = some f ∧ readParam env t.1 f.ty t.2.1 = .ok t.2.2) →
      decodeParamFields env fields q (ts.map (·.1)) = .ok (ts.map (fun t => (t.1, t.2.2))) := by
  intro ts h
  induction ts with
  | nil => rfl
  | cons t rest ih =>
    obtain ⟨k, raw, v⟩ := t
    obtain ⟨hmem, f, hf, hread⟩ := h (k, raw, v) (by simp)
    simp only [List.map_cons, decodeParamFields, hf, lastOf_of_nodup q hnd k raw hmem]
    simp only at hread
    rw [hread]
    simp only [Dec.bind]
    rw [ih (fun t ht => h t (List.mem_cons_of_mem _ ht))]

/-- **the parameters of a call come back**: the sorted name/value pairs the generated client writes
for a record of parameters are decoded by the generated `DecodeQueryParams` to the caller's record
(normalised), for every params record of every schema -/
theorem decodeParams_paramPairs (K : Consts) (hs : K.sortKeys = true) (E : EscLaws K.queryEsc true) (F : FloatLaws)
    (env : Env) (S : SchemaOK env) (n : TName) (incs : List TName) (own : List Field)
    (hfind : env.find n = some (.record incs own)) (fs : List (Bytes × Value)) (hv : ValOK (.record fs))
    (pairs : List (Bytes × Bytes)) (hp : paramPairs K env n (.record fs) = some pairs) :
    decodeParams env n (sortByKey pairs) = .ok (norm env (encFuel + 1) (.ref n) (.record fs)) := by
  unfold paramPairs at hp
  simp only at hp
  have hnorm : norm env (encFuel + 1) (.ref n) (.record fs) =
      (match setFields (allFields env (includeFuel env) n) fs with
        | some triples =>
          .record (populateDefaults own (sortByKey (triples.map (fun x => (x.1, norm env encFuel x.2.1 x.2.2)))))
        | none => .record fs) := by
    simp only [norm, hfind]
    cases setFields (allFields env (includeFuel env) n) fs <;> rfl
  rw [hnorm]
  unfold decodeParams
  simp only
  generalize hfields : allFields env (includeFuel env) n = fields at hp ⊢
  cases hsf : setFields fields fs with
  | none => simp [hsf] at hp
  | some triples =>
    simp only [hsf] at hp ⊢
    cases hl : encodeTyped (fun _ => false) (fun k t v => encode (wcfg K env) encFuel [k] t v) triples with
    | error e => simp [hl, toOpt] at hp
    | ok kvs =>
      simp only [hl, toOpt, Option.map_some, Option.some.injEq] at hp
      subst hp
      obtain ⟨hkvs, hall⟩ := encodeTyped_all _ triples kvs hl
      obtain ⟨hsub, hmem, hreq⟩ := setFields_spec fields fs triples hsf
      have hfnd : (fields.map (·.name)).Nodup := by
        rw [← hfields]; exact S.fieldsNodup n incs own hfind
      have hnd : KeysNodup triples := hsub.nodup hfnd
      simp only [ValOK] at hv
      have hcfg : (ror2Ctx env K.queryEsc true E F S).cfg = wcfg K env := by
        simp [RTCtx.cfg, ror2Ctx, wcfg, hs]
      -- sorting looks at the names only: the sorted parameters are those of the sorted fields, each
      -- with the text written for it and the value that text reads back to
      let ts : List (Bytes × Bytes × Value) := (sortByKey triples).map fun it =>
        (it.1, renderRor2 K.queryEsc (okDoc (encode (wcfg K env) encFuel [it.1] it.2.1 it.2.2)), norm env encFuel it.2.1 it.2.2)
      have hq : sortByKey (kvs.map (fun e => (e.1, renderRor2 K.queryEsc e.2))) = ts.map (fun t => (t.1, t.2.1)) := by
        rw [sortByKey_mapVal (fun _ => renderRor2 K.queryEsc), hkvs,
          sortByKey_mapVal (fun k (tv : Ty × Value) => okDoc (encode (wcfg K env) encFuel [k] tv.1 tv.2))]
        simp [ts, List.map_map, Function.comp_def]
      have hnames : (ts.map (fun t => (t.1, t.2.1))).map (·.1) = (sortByKey triples).map (·.1) := by
        simp [ts, List.map_map, Function.comp_def]
      have hqnd : ((ts.map (fun t => (t.1, t.2.1))).map (·.1)).Nodup := by
        rw [hnames]; exact keysNodup_sortByKey triples hnd
      have hgood : ∀ t ∈ ts, (t.1, t.2.1) ∈ ts.map (fun t => (t.1, t.2.1)) ∧
          ∃ f, findField fields t.1 = some f ∧ readParam env t.1 f.ty t.2.1 = .ok t.2.2 := by
        intro t ht
        refine ⟨List.mem_map.2 ⟨t, ht, rfl⟩, ?_⟩
        obtain ⟨it, hit, rfl⟩ := List.mem_map.1 ht
        have hit := (mem_sortByKey triples it).1 hit
        obtain ⟨fld, hfld, hname, hty, hlk⟩ := hmem it hit
        refine ⟨fld, ?_, ?_⟩
        · simp only; rw [← hname]; exact findField_of_nodup fields hfnd fld hfld
        · simp only [readParam]
          rw [hty]
          have hrc : queryRCfg env = ror2RcQ env true 0 true := rfl
          rw [hrc, ror2_roundtrip_any env K.queryEsc true E F S 0 encFuel true [it.1] [.key it.1] it.2.1 it.2.2 _ _
            (by omega) (lookup_valOK fs hv _ _ hlk) (by rw [hcfg]; exact hall it hit)]
          rfl
      have hts : ts.map (·.1) = (ts.map (fun t => (t.1, t.2.1))).map (·.1) := by
        simp [List.map_map, Function.comp_def]
      rw [hq, dedupNames_of_nodup _ hqnd, ← hts, decodeParamFields_all env fields _ hqnd ts hgood]
      simp only [Dec.bind]
      -- the values, in sorted key order
      have hvals : ts.map (fun t => (t.1, t.2.2)) =
          sortByKey (triples.map (fun it => (it.1, norm env encFuel it.2.1 it.2.2))) := by
        rw [sortByKey_mapVal (fun _ (tv : Ty × Value) => norm env encFuel tv.1 tv.2)]
        simp [ts, List.map_map, Function.comp_def]
      have hseen : ∀ fld ∈ fields, fld.optOrDefault = false → fld.name ∈ (ts.map (fun t => (t.1, t.2.2))).map (·.1) := by
        intro fld hf ho
        have : (ts.map (fun t => (t.1, t.2.2))).map (·.1) = (sortByKey triples).map (·.1) := by
          simp [ts, List.map_map, Function.comp_def]
        rw [this, ((keys_sortByKey_perm triples).map (·.1)).mem_iff]
        exact hreq fld hf ho
      rw [remainingRequired_nil fields _ hseen, hvals]
      simp [hfind]

end Restli.E2E
