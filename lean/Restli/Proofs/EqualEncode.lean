import Restli.Proofs.GenEquals
import Restli.Proofs.EncodePerm
import Restli.Proofs.ValOK
/-! Equal values that do not differ in the sign of a zero have the same encoding (v2 writer:
keys sorted), at every type of every schema. Links the generated `Equals` model
(`Model/GenEquals.lean`) with the writer model (`Model/Encode.lean`). -/
namespace Restli.Codec
open Restli Restli.Fnv Restli.Equals Restli.EqualsSpec

theorem uint32_ofNat_inj (x y : Nat) (hx : x < 2 ^ 32) (hy : y < 2 ^ 32)
    (h : UInt32.ofNat x = UInt32.ofNat y) : x = y := by
  rw [← UInt32.toNat_ofNat_of_lt' hx, ← UInt32.toNat_ofNat_of_lt' hy, h]

theorem uint64_ofNat_inj (x y : Nat) (hx : x < 2 ^ 64) (hy : y < 2 ^ 64)
    (h : UInt64.ofNat x = UInt64.ofNat y) : x = y := by
  rw [← UInt64.toNat_ofNat_of_lt' hx, ← UInt64.toNat_ofNat_of_lt' hy, h]

/-- on Go values (float bit patterns fit their width) `primEqZ` is identity of the value -/
theorem primEqZ_eq (p : Prim) (a b : Value) (ha : ValOK a) (hb : ValOK b) (h : primEqZ p a b = true) :
    a = b := by
  obtain ⟨h1, h2⟩ := Bool.and_eq_true_iff.1 h
  rcases primEq_cases h1 with e | ⟨x, y, _, rfl, rfl, _⟩ | ⟨x, y, _, rfl, rfl, _⟩
  · exact e
  · rw [uint32_ofNat_inj x y ha hb (eq_of_beq h2)]
  · rw [uint64_ofNat_inj x y ha hb (eq_of_beq h2)]

mutual
theorem mapsOK_of_valOK : ∀ v, ValOK v → MapsOK v
  | .i32 _, _ => trivial
  | .i64 _, _ => trivial
  | .f32 _, _ => trivial
  | .f64 _, _ => trivial
  | .bool _, _ => trivial
  | .str _, _ => trivial
  | .bytes _, _ => trivial
  | .enum _, _ => trivial
  | .fixed _, _ => trivial
  | .record fs, h => by simp only [ValOK] at h; simp only [MapsOK]; exact mapsOKKvs_of_valOK fs h
  | .union ms, h => by simp only [ValOK] at h; simp only [MapsOK]; exact mapsOKKvs_of_valOK ms h
  | .arr vs, h => by simp only [ValOK] at h; simp only [MapsOK]; exact mapsOKList_of_valOK vs h
  | .map es, h => by
    simp only [ValOK] at h; simp only [MapsOK]
    exact ⟨h.1, mapsOKKvs_of_valOK es h.2⟩
theorem mapsOKKvs_of_valOK : ∀ l, ValOKKvs l → MapsOKKvs l
  | [], _ => trivial
  | (_, v) :: rest, h => by
    simp only [ValOKKvs] at h; simp only [MapsOKKvs]
    exact ⟨mapsOK_of_valOK v h.1, mapsOKKvs_of_valOK rest h.2⟩
theorem mapsOKList_of_valOK : ∀ l, ValOKList l → MapsOKList l
  | [], _ => trivial
  | v :: rest, h => by
    simp only [ValOKList] at h; simp only [MapsOKList]
    exact ⟨mapsOK_of_valOK v h.1, mapsOKList_of_valOK rest h.2⟩
end

theorem primEqZ_primEq (p : Prim) (a b : Value) (h : primEqZ p a b = true) : primEq p a b = true :=
  (Bool.and_eq_true_iff.1 h).1

theorem valueEqZ_valueEq (env : Env) (f : Nat) : ∀ (ty : Ty) (a b : Value), MapsOK a → MapsOK b →
    valueEqZ env f ty a b = true → valueEq env f ty a b = true := by
  induction f with
  | zero => intro _ _ _ _ _ h; cases h
  | succ f ih =>
    intro ty a b ha hb h
    rw [valueEqZ_succ] at h
    rw [valueEq_succ]
    exact eqStep_mono primEqZ_primEq ih ty a b ha hb h

/-- the writer side (`Codec.KeysNodup`) and the `Equals` side (`Equals.KeysNodup`) each define
"distinct keys"; the two unfold to the same proposition -/
theorem keysNodup_iff {α : Type} {l : List (Bytes × α)} : KeysNodup l ↔ Equals.KeysNodup l := Iff.rfl

theorem ArrRel.all2 {α : Type} {eq : α → α → Bool} {R : α → α → Prop} {l r : List α} (h : ArrRel eq l r)
    (hR : ∀ a ∈ l, ∀ b ∈ r, eq a b = true → R a b) : All2 R l r := by
  induction h with
  | nil => exact All2.nil
  | @cons a b l r hab _ ih =>
    exact All2.cons (hR a List.mem_cons_self b List.mem_cons_self hab)
      (ih (fun x hx y hy => hR x (List.mem_cons_of_mem _ hx) y (List.mem_cons_of_mem _ hy)))

/-- two triples name the same slot and hold related values -/
def TripRel (R : Ty → Value → Value → Prop) (a b : Bytes × Ty × Value) : Prop :=
  a.1 = b.1 ∧ a.2.1 = b.2.1 ∧ R a.2.1 a.2.2 b.2.2

theorem setFields_rel (R : Ty → Value → Value → Prop) (xs ys : List (Bytes × Value)) (fields : List Field)
    (hall : ∀ fld ∈ fields, SlotRel R xs ys fld.name fld.ty) :
    ∀ tr, setFields fields xs = some tr → ∃ tr', setFields fields ys = some tr' ∧ All2 (TripRel R) tr tr' := by
  induction fields with
  | nil =>
    intro tr h
    simp only [setFields, Option.some.injEq] at h; subst h
    exact ⟨[], rfl, All2.nil⟩
  | cons fld rest ih =>
    have ih := ih fun g hg => hall g (List.mem_cons_of_mem _ hg)
    intro tr h
    simp only [setFields, Value.lookup] at h ⊢
    rcases hall fld List.mem_cons_self with ⟨hx, hy⟩ | ⟨x, y, hx, hy, hr⟩
    · simp only [hx, hy] at h ⊢
      split at h
      · next ho =>
        obtain ⟨tr', h', hr⟩ := ih tr h
        exact ⟨tr', by simp [ho, h'], hr⟩
      · cases h
    · simp only [hx, hy] at h ⊢
      cases hs : setFields rest xs with
      | none => simp [hs] at h
      | some tr0 =>
        simp only [hs, Option.map_some, Option.some.injEq] at h
        subst h
        obtain ⟨tr', h', hr'⟩ := ih tr0 hs
        exact ⟨(fld.name, fld.ty, y) :: tr', by simp [h'], All2.cons ⟨rfl, rfl, hr⟩ hr'⟩

theorem setMembers_rel (R : Ty → Value → Value → Prop) (xs ys : List (Bytes × Value))
    (members : List (Bytes × Ty)) (hall : ∀ m ∈ members, SlotRel R xs ys m.1 m.2) :
    All2 (TripRel R) (setMembers members xs) (setMembers members ys) ∧
      countSet xs members = countSet ys members := by
  induction members with
  | nil => exact ⟨All2.nil, rfl⟩
  | cons m rest ih =>
    obtain ⟨ihr, ihc⟩ := ih fun g hg => hall g (List.mem_cons_of_mem _ hg)
    simp only [setMembers, countSet, Value.lookup] at ihr ihc ⊢
    rcases hall m List.mem_cons_self with ⟨hx, hy⟩ | ⟨x, y, hx, hy, hr⟩
    · simp only [List.filterMap_cons, hx, hy, Option.map_none, List.filter_cons, Option.isSome_none,
        Bool.false_eq_true, ↓reduceIte]
      exact ⟨ihr, ihc⟩
    · simp only [List.filterMap_cons, hx, hy, Option.map_some, List.filter_cons, Option.isSome_some,
        ↓reduceIte, List.length_cons]
      exact ⟨All2.cons ⟨rfl, rfl, hr⟩ ihr, by omega⟩

/-- the no-op writer fails on an undeclared enum constant and on nothing else, and Equal values hold
the same constant -/
theorem encodeNoop_congr (env : Env) (f : Nat) (ty : Ty) (a b : Value) (ha : ValOK a) (hb : ValOK b)
    (he : valueEqZ env f ty a b = true) : encodeNoop env ty a = encodeNoop env ty b := by
  cases f with
  | zero => cases he
  | succ f =>
    rw [valueEqZ_succ] at he
    refine eqStep_cases (R := fun _ _ _ => True)
      (motive := fun ty a b => ValOK a → ValOK b → encodeNoop env ty a = encodeNoop env ty b)
      (fun _ _ _ _ _ _ => trivial) ?prim ?arr ?map ?ref (mapsOK_of_valOK a ha) (mapsOK_of_valOK b hb) he ha hb
    case prim => intro p a b e ha hb; rw [primEqZ_eq p a b ha hb e]
    case arr => intros; rfl
    case map => intros; rfl
    case ref =>
      intro n a b ma mb e
      refine namedEqG_cases (R := fun _ _ _ => True)
        (motive := fun a b => ValOK a → ValOK b → encodeNoop env (.ref n) a = encodeNoop env (.ref n) b)
        (fun _ _ _ _ _ _ => trivial) ?typeref ?enum ?fixed ?record ?union ma mb e
      case typeref => intro p a b _ e ha hb; rw [primEqZ_eq p a b ha hb e]
      case enum => intros; rfl
      case fixed => intros; rfl
      case record => intros; rfl
      case union => intros; rfl

theorem slotEnc_congr {c : EncCfg} {f : Nat}
    (ih : ∀ scope ty a b d, ValOK a → ValOK b → valueEqZ c.env f ty a b = true →
      encode c f scope ty a = .ok d → encode c f scope ty b = .ok d) (scope : List Bytes) (k : Bytes) (t : Ty)
    (x y : Value) (hx : ValOK x) (hy : ValOK y) (e : valueEqZ c.env f t x y = true) (d : Doc)
    (h : slotEnc c f scope k t x = .ok d) : slotEnc c f scope k t y = .ok d := by
  unfold slotEnc at h ⊢
  split
  · next hk => rw [if_pos hk] at h; rw [← encodeNoop_congr c.env f t x y hx hy e]; exact h
  · next hk => rw [if_neg hk] at h; exact ih _ _ _ _ _ hx hy e h

/-- what `a` encodes to, `b` encodes to, when `a` and `b` are Equal and do not differ in the sign of a zero -/
theorem encode_congr_of_valueEqZ (c : EncCfg) (hs : c.sortKeys = true) (f : Nat) :
    ∀ scope ty a b d, ValOK a → ValOK b → valueEqZ c.env f ty a b = true →
      encode c f scope ty a = .ok d → encode c f scope ty b = .ok d := by
  induction f with
  | zero => intro _ _ _ _ _ _ _ h; cases h
  | succ f ih =>
    intro scope ty a b d ha hb he
    rw [valueEqZ_succ] at he
    have hslot : ∀ {xs ys : List (Bytes × Value)} {k : Bytes} {t : Ty}, ValOKKvs xs → ValOKKvs ys →
        SlotRel (fun t x y => valueEqZ c.env f t x y = true) xs ys k t →
        SlotRel (fun t x y => ∀ k d, slotEnc c f scope k t x = .ok d → slotEnc c f scope k t y = .ok d)
          xs ys k t :=
      fun hxs hys h => h.imp fun x y hx hy e k d =>
        slotEnc_congr ih scope k _ x y (lookup_valOK _ hxs _ _ hx) (lookup_valOK _ hys _ _ hy) e d
    have htyped : ∀ {tr tr' : List (Bytes × Ty × Value)} {d : Doc},
        All2 (TripRel fun t x y => ∀ k d, slotEnc c f scope k t x = .ok d → slotEnc c f scope k t y = .ok d)
          tr tr' →
        encodeTyped (fun k => c.excl.matchesB (scope ++ [k])) (slotEnc c f scope) tr
          >>= (fun kvs => pure (c.finish kvs)) = .ok d →
        encodeTyped (fun k => c.excl.matchesB (scope ++ [k])) (slotEnc c f scope) tr'
          >>= (fun kvs => pure (c.finish kvs)) = .ok d :=
      fun hrel h => bind_ok_mono
        (encodeTyped_sim (hrel.imp fun (k, t, x) (_, _, y) ⟨hk, ht, hr⟩ => by
          cases hk; cases ht; exact ⟨rfl, hr k⟩)) (fun _ h => h) h
    refine eqStep_cases (R := fun t x y => valueEqZ c.env f t x y = true)
      (motive := fun ty a b => ValOK a → ValOK b → ∀ d,
        encode c (f + 1) scope ty a = .ok d → encode c (f + 1) scope ty b = .ok d)
      (fun _ _ _ _ _ e => e) ?_ ?_ ?_ ?_ (mapsOK_of_valOK a ha) (mapsOK_of_valOK b hb) he ha hb d
    · intro p a b e ha hb d h
      rw [← primEqZ_eq p a b ha hb e]; exact h
    · intro t xs ys hrel _ ha hb d h
      simp only [ValOK] at ha hb
      exact bind_ok_mono (encodeList_sim (ArrRel.all2 hrel fun x hx y hy e d =>
        ih _ t x y d (valOKList_mem xs ha x hx) (valOKList_mem ys hb y hy) e)) (fun _ h => h) h
    · -- maps: re-list the right map in the order of the left one, then permute
      intro t xs ys hx hy hrel _ ha hb d h
      simp only [ValOK] at ha hb
      have hA : encode c (f + 1) scope (.map t) (.map (alignTo xs ys)) = .ok d := by
        rw [encode_map] at h ⊢
        refine bind_ok_mono (encodeKeyed_sim (all2_map_right _ _ xs fun (k, lv) hin => ?_))
          (fun _ h => h) h
        obtain ⟨rv, hr', hev⟩ := hrel.1 k lv hin
        refine ⟨rfl, ?_⟩
        simp only [mapLookup_of_mem hy hr']
        exact slotEnc_congr ih scope k t lv rv (valOKKvs_mem xs ha.2 _ hin) (valOKKvs_mem ys hb.2 _ hr') hev
      have hnA : KeysNodup (alignTo xs ys) :=
        keysNodup_iff.2 (show ((alignTo xs ys).map Prod.fst).Nodup from alignTo_keys xs ys ▸ ha.1)
      exact encode_map_eq_of_perm c hs f scope t (alignTo_perm hrel hx hy) hnA hA
    · intro n a b ma mb e
      refine namedEqG_cases (R := fun t x y => valueEqZ c.env f t x y = true)
        (motive := fun a b => ValOK a → ValOK b → ∀ d,
          encode c (f + 1) scope (.ref n) a = .ok d → encode c (f + 1) scope (.ref n) b = .ok d)
        (fun _ _ _ _ _ e => e) ?_ ?_ ?_ ?_ ?_ ma mb e
      · intro p a b _ e ha hb d h
        rw [← primEqZ_eq p a b ha hb e]; exact h
      · intro _ _ _ _ _ _ _ h
        exact h
      · intro _ _ _ _ _ _ h
        exact h
      · intro incs own xs ys hfind hslots ha hb d h
        simp only [ValOK] at ha hb
        unfold encode at h ⊢
        simp only [hfind] at h ⊢
        cases hsf : setFields (allFields c.env (includeFuel c.env) n) xs with
        | none => rw [hsf] at h; cases h
        | some tr =>
          obtain ⟨tr', hsf', hrel⟩ := setFields_rel _ xs ys _
            (fun fld hfld => hslot ha hb (hslots fld hfld)) tr hsf
          rw [hsf] at h
          rw [hsf']
          exact htyped hrel h
      · intro hasNull members xs ys hfind hslots ha hb d h
        simp only [ValOK] at ha hb
        obtain ⟨hrel, hcount⟩ := setMembers_rel _ xs ys members
          (fun m hm => hslot ha hb (hslots m hm))
        unfold encode at h ⊢
        simp only [hfind] at h ⊢
        rw [← hcount]
        split at h
        · cases h
        · split at h
          · cases h
          · next h1 h2 => rw [if_neg h1, if_neg h2]; exact htyped hrel h

end Restli.Codec
