import Restli.Model.Encode
import Restli.Proofs.Bytes
/-! `encode` at a named type whose declaration is known: the generated `MarshalRestLi` of an enum
and of a union, with the validity checks they perform before anything is written. -/
namespace Restli.Codec

theorem encode_enum {c : EncCfg} {fuel : Nat} {scope : List Bytes} {n : TName} {syms : List Bytes} {k : Int}
    (hd : c.env.find n = some (.enum syms)) :
    encode c (fuel + 1) scope (.ref n) (.enum k) =
      if 1 ≤ k ∧ k ≤ syms.length then
        match syms[(k - 1).toNat]? with
        | some s => .ok (.str s)
        | none => .error .enum
      else .error .enum := by
  simp only [encode, hd]
  rfl

theorem encode_union {c : EncCfg} {fuel : Nat} {scope : List Bytes} {n : TName} {hasNull : Bool}
    {members : List (Bytes × Ty)} {ms : List (Bytes × Value)}
    (hd : c.env.find n = some (.union hasNull members)) :
    encode c (fuel + 1) scope (.ref n) (.union ms) =
      if countSet ms members > 1 then .error .union
      else if countSet ms members = 0 && !hasNull then .error .union
      else
        encodeTyped (fun k => c.excl.matchesB (scope ++ [k]))
          (fun k t v => if c.excl.matchesB (scope ++ [k]) then encodeNoop c.env t v
            else encode c fuel (scope ++ [k]) t v) (setMembers members ms) >>= fun kvs => pure (c.finish kvs) := by
  simp only [encode, hd]

end Restli.Codec
