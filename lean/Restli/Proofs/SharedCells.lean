import Restli.Model.SharedCells
/-! Every commutation result of C17 is an instance of one induction over schedules, `run_sim`: a
thread is tracked against its solo run under a relation between the two shared states. The concrete
programs are classified action by action (`QuietF`, `DrawOrInert`). -/
namespace Restli.SharedCells

universe u v
variable {S : Type u} {L : Type v}

/-! ### What the C17 statements speak of -/

/-- the two shared states differ at most in the random source's position -/
def EqExceptRng (s s' : Shared) : Prop :=
  s.tree = s'.tree ∧ s.registry = s'.registry ∧ s.errs = s'.errs ∧ s.snapshot = s'.snapshot

/-- the draws handed out so far are below the generator position and pairwise distinct -/
def DrawsOk (s : Shared) (ts : List (Thread Shared Local)) : Prop :=
  (∀ (i : Nat) (t : Thread Shared Local) (d : Nat), ts[i]? = some t → t.loc.draw = some d → d < s.rng) ∧
  (∀ (i j : Nat) (ti tj : Thread Shared Local) (d : Nat), i ≠ j → ts[i]? = some ti → ts[j]? = some tj → ti.loc.draw = some d → tj.loc.draw ≠ some d)

/-- the requests of one server — `ServeHTTP` with whichever error branch the switch regenerated from
handler.go selects (`serveNow`: "stores the default message through the resource's pointer" or
"completes a copy") — plus any number of adapter look-ups -/
def serverSys (C : Consts) (s : Shared) (reqs : List Req) (tys : List Nat) : Sys Shared Local :=
  mkSys s (reqs.map (serveNow C) ++ tys.map loadProg)

/-- the same with the error branch that stores the default message through the resource's pointer
(`errRes.Message = …`): the program the check's seeded regression brings back -/
def storingSys (C : Consts) (s : Shared) (reqs : List Req) (tys : List Nat) : Sys Shared Local :=
  mkSys s (reqs.map (serveProg C false) ++ tys.map loadProg)

/-- any number of concurrent `ResolveHostnameAndContextForQuery` calls (`resolveNow`: two-step or
atomic draw, as the switch regenerated from `d2/*.go` selects), server requests and adapter look-ups -/
def resolverSys (C : Consts) (s : Shared) (n : Nat) (reqs : List Req) (tys : List Nat) : Sys Shared Local :=
  mkSys s (List.replicate n (resolveNow C) ++ (reqs.map (serveNow C) ++ tys.map loadProg))

def final (sys : Sys Shared Local) (sched : Schedule) : Shared × List Local :=
  ((run sys sched).shared, outcomes (run sys sched))

/-- a schedule of a two-request system is equivalent to one of the two serial executions -/
def SerialEquivalent2 (sys : Sys Shared Local) (sched : Schedule) : Prop :=
  ∃ order ∈ [[0, 1], [1, 0]], final sys sched = final sys (serialSchedule sys order)

instance (sys : Sys Shared Local) (sched : Schedule) : Decidable (SerialEquivalent2 sys sched) := by
  unfold SerialEquivalent2; exact inferInstance

theorem advance_succ (s : S) (t : Thread S L) (k : Nat) :
    advance s t (k + 1) = advance (stepThread s t).1 (stepThread s t).2 k := rfl

theorem stepThread_nil {s : S} {t : Thread S L} (h : t.todo = []) : stepThread s t = (s, t) := by
  unfold stepThread; rw [h]

theorem stepThread_todo_length (s : S) (t : Thread S L) :
    (stepThread s t).2.todo.length = t.todo.length - 1 := by
  unfold stepThread; split <;> simp_all

theorem stepThread_todo_sub (s : S) (t : Thread S L) :
    ∀ a ∈ (stepThread s t).2.todo, a ∈ t.todo := by
  unfold stepThread; split
  · intro a h; exact h
  · rename_i a rest h; intro b hb; rw [h]; exact List.mem_cons_of_mem _ hb

theorem advance_stutter {s : S} {t : Thread S L} (h : t.todo = []) (k : Nat) : advance s t k = (s, t) := by
  induction k with
  | zero => rfl
  | succ k ih => rw [advance_succ, stepThread_nil h]; exact ih

theorem advance_add (s : S) (t : Thread S L) (a b : Nat) :
    advance s t (a + b) = advance (advance s t a).1 (advance s t a).2 b := by
  induction a generalizing s t with
  | zero => rw [Nat.zero_add]; rfl
  | succ a ih => rw [Nat.succ_add, advance_succ, advance_succ, ih]

theorem advance_todo_length (s : S) (t : Thread S L) (k : Nat) :
    (advance s t k).2.todo.length = t.todo.length - k := by
  induction k generalizing s t with
  | zero => rfl
  | succ k ih => rw [advance_succ, ih, stepThread_todo_length, Nat.sub_sub, Nat.add_comm]

theorem runAlone_done (s : S) (t : Thread S L) : (runAlone s t).2.todo = [] :=
  List.eq_nil_of_length_eq_zero ((advance_todo_length s t t.todo.length).trans (Nat.sub_self _))

theorem advance_ge {s : S} {t : Thread S L} {k : Nat} (h : t.todo.length ≤ k) :
    advance s t k = runAlone s t := by
  obtain ⟨d, rfl⟩ := Nat.exists_eq_add_of_le h
  rw [advance_add]
  exact advance_stutter (runAlone_done s t) d

theorem stepSys_of_none {sys : Sys S L} {j : Nat} (h : sys.threads[j]? = none) : stepSys sys j = sys := by
  rw [stepSys, h]

theorem stepSys_of_some {sys : Sys S L} {j : Nat} {u : Thread S L} (h : sys.threads[j]? = some u) :
    stepSys sys j = ⟨(stepThread sys.shared u).1, sys.threads.set j (stepThread sys.shared u).2⟩ := by
  rw [stepSys, h]

theorem run_induction (P : Sys S L → Prop) (hstep : ∀ sys j, P sys → P (stepSys sys j))
    (sched : Schedule) (sys : Sys S L) (h : P sys) : P (run sys sched) := by
  induction sched generalizing sys with
  | nil => exact h
  | cons j rest ih => exact ih _ (hstep sys j h)

theorem run_shared_inv (A : S → Prop) (K : Thread S L → Prop)
    (hstep : ∀ s u, A s → K u → A (stepThread s u).1 ∧ K (stepThread s u).2)
    (sched : Schedule) (sys : Sys S L) (hA : A sys.shared) (hK : ∀ t ∈ sys.threads, K t) :
    A (run sys sched).shared ∧ ∀ t ∈ (run sys sched).threads, K t := by
  refine run_induction (fun sys => A sys.shared ∧ ∀ t ∈ sys.threads, K t) ?_ sched sys ⟨hA, hK⟩
  intro sys j ⟨hA, hK⟩
  cases hj : sys.threads[j]? with
  | none => rw [stepSys_of_none hj]; exact ⟨hA, hK⟩
  | some u =>
    rw [stepSys_of_some hj]
    have hu := hstep _ u hA (hK u (List.mem_of_getElem? hj))
    exact ⟨hu.1, fun t ht => (List.mem_or_eq_of_mem_set ht).elim (hK t) (fun e => e ▸ hu.2)⟩

/-- One thread against its solo run. `V solo real` relates the shared state of thread `i` running
alone to the shared state of the interleaved run. If the thread's own steps take related states to
related states and compute the same local result on both, and the steps of the other threads keep
the real state related to the (unmoved) solo state, then after every schedule thread `i` is exactly
where the same number of solo steps put it. -/
theorem run_sim (V : S → S → Prop) (Own Other : Thread S L → Prop)
    (hown : ∀ σ s u, V σ s → Own u → V (stepThread σ u).1 (stepThread s u).1 ∧
      (stepThread σ u).2 = (stepThread s u).2 ∧ Own (stepThread s u).2)
    (hother : ∀ σ s u, V σ s → Other u → V σ (stepThread s u).1 ∧ Other (stepThread s u).2)
    (i : Nat) (sched : Schedule) (σ : S) (sys : Sys S L) (t : Thread S L)
    (hV : V σ sys.shared) (ht : sys.threads[i]? = some t) (hO : Own t)
    (hoth : ∀ j u, j ≠ i → sys.threads[j]? = some u → Other u) :
    V (advance σ t (sched.count i)).1 (run sys sched).shared ∧
      (run sys sched).threads[i]? = some (advance σ t (sched.count i)).2 := by
  induction sched generalizing σ sys t with
  | nil => exact ⟨hV, ht⟩
  | cons j rest ih =>
    rw [run]
    by_cases e : j = i
    · -- thread `i` itself moves: so does its solo run
      subst e
      obtain ⟨hV', heq, hO'⟩ := hown σ sys.shared t hV hO
      rw [stepSys_of_some ht, List.count_cons_self, advance_succ, heq]
      exact ih _ ⟨_, _⟩ _ hV' (List.getElem?_set_self (List.getElem?_eq_some_iff.1 ht).1) hO'
        fun k v hk hv => hoth k v hk (by rwa [List.getElem?_set_ne (Ne.symm hk)] at hv)
    · rw [List.count_cons_of_ne e]
      cases hj : sys.threads[j]? with
      | none => rw [stepSys_of_none hj]; exact ih σ sys t hV ht hO hoth
      | some u =>
        obtain ⟨hV', hu'⟩ := hother σ sys.shared u hV (hoth j u e hj)
        rw [stepSys_of_some hj]
        refine ih σ ⟨_, _⟩ t hV' (by rw [List.getElem?_set_ne e]; exact ht) hO fun k v hk hv => ?_
        by_cases ek : j = k
        · subst ek
          rw [List.getElem?_set_self (List.getElem?_eq_some_iff.1 hj).1] at hv
          cases hv; exact hu'
        · rw [List.getElem?_set_ne ek] at hv; exact hoth k v hk hv

def ThreadRO (s0 : S) (I : L → Prop) (t : Thread S L) : Prop :=
  I t.loc ∧ ∀ a ∈ t.todo, ReadOnlyAt s0 I a

theorem stepThread_ro {s0 : S} {I : L → Prop} {t : Thread S L} (h : ThreadRO s0 I t) :
    (stepThread s0 t).1 = s0 ∧ ThreadRO s0 I (stepThread s0 t).2 := by
  have hstep : (stepThread s0 t).1 = s0 ∧ I (stepThread s0 t).2.loc := by
    unfold stepThread; split
    · exact ⟨rfl, h.1⟩
    · rename_i a rest hq; exact h.2 a (by rw [hq]; exact List.mem_cons_self) t.loc h.1
  exact ⟨hstep.1, hstep.2, fun a ha => h.2 a (stepThread_todo_sub s0 t a ha)⟩

theorem run_ro (sys : Sys S L) (I : L → Prop) (h : ∀ t ∈ sys.threads, ThreadRO sys.shared I t)
    (sched : Schedule) :
    (run sys sched).shared = sys.shared ∧
    ∀ i t, sys.threads[i]? = some t →
      (advance sys.shared t (sched.count i)).1 = sys.shared ∧
      (run sys sched).threads[i]? = some (advance sys.shared t (sched.count i)).2 := by
  refine ⟨(run_shared_inv (· = sys.shared) (ThreadRO sys.shared I)
    (fun s u hs hu => hs ▸ stepThread_ro (hs ▸ hu)) sched sys rfl h).1, fun i t hi => ?_⟩
  have := run_sim (fun σ s => σ = sys.shared ∧ s = sys.shared) (ThreadRO sys.shared I) (ThreadRO sys.shared I)
    (fun σ s u hV hu => by
      obtain ⟨rfl, rfl⟩ := hV
      exact ⟨⟨(stepThread_ro hu).1, (stepThread_ro hu).1⟩, rfl, (stepThread_ro hu).2⟩)
    (fun σ s u hV hu => by
      obtain ⟨rfl, rfl⟩ := hV
      exact ⟨⟨rfl, (stepThread_ro hu).1⟩, (stepThread_ro hu).2⟩)
    i sched sys.shared sys t ⟨rfl, rfl⟩ hi (h t (List.mem_of_getElem? hi))
    (fun j u _ hj => h u (List.mem_of_getElem? hj))
  exact ⟨this.1.1, this.2⟩

/-- every action of `t` leaves the shared state alone and computes the same local state on any two
shared states related by `R` -/
def ThreadBlind (R : S → S → Prop) (t : Thread S L) : Prop :=
  ∀ a ∈ t.todo, (∀ s l, (a.step s l).1 = s) ∧ ∀ s s' l, R s s' → (a.step s l).2 = (a.step s' l).2

/-- every action of `t` changes the shared state only within its `R`-class -/
def ThreadWithin (R : S → S → Prop) (t : Thread S L) : Prop :=
  ∀ a ∈ t.todo, ∀ s l, R s (a.step s l).1

theorem stepThread_blind {R : S → S → Prop} {t : Thread S L} (h : ThreadBlind R t) (s : S) :
    (stepThread s t).1 = s ∧ ThreadBlind R (stepThread s t).2 ∧
    ∀ s', R s s' → (stepThread s t).2 = (stepThread s' t).2 := by
  refine ⟨?_, fun a ha => h a (stepThread_todo_sub s t a ha), ?_⟩
  · unfold stepThread; split
    · rfl
    · rename_i a rest hq; exact (h a (by rw [hq]; exact List.mem_cons_self)).1 s t.loc
  · intro s' hr; unfold stepThread; split
    · rfl
    · rename_i a rest hq
      have := (h a (by rw [hq]; exact List.mem_cons_self)).2 s s' t.loc hr
      simp [this]

theorem stepThread_within {R : S → S → Prop} (hrefl : ∀ s, R s s) {t : Thread S L}
    (h : ThreadWithin R t) (s : S) :
    R s (stepThread s t).1 ∧ ThreadWithin R (stepThread s t).2 := by
  refine ⟨?_, fun a ha => h a (stepThread_todo_sub s t a ha)⟩
  unfold stepThread; split
  · exact hrefl s
  · rename_i a rest hq; exact h a (by rw [hq]; exact List.mem_cons_self) s t.loc

/-- Among writers that stay inside the region and readers that are blind to it, every reader is
where its solo run from the initial state puts it. The real shared state need not be `R`-related to
the initial one (`R` is not assumed transitive); what is kept is that blind threads step alike on
both. -/
theorem run_blind (R : S → S → Prop) (hrefl : ∀ s, R s s) (sys : Sys S L)
    (hkinds : ∀ t ∈ sys.threads, ThreadWithin R t ∨ ThreadBlind R t) (sched : Schedule)
    (i : Nat) (t : Thread S L) (hi : sys.threads[i]? = some t) (hb : ThreadBlind R t) :
    (run sys sched).threads[i]? = some (advance sys.shared t (sched.count i)).2 := by
  refine (run_sim
    (fun σ s => σ = sys.shared ∧ ∀ u : Thread S L, ThreadBlind R u → (stepThread sys.shared u).2 = (stepThread s u).2)
    (ThreadBlind R) (fun u => ThreadWithin R u ∨ ThreadBlind R u) ?_ ?_
    i sched sys.shared sys t ⟨rfl, fun _ _ => rfl⟩ hi hb (fun j u _ hj => hkinds u (List.mem_of_getElem? hj))).2
  · rintro σ s u ⟨rfl, hE⟩ hu
    rw [(stepThread_blind hu _).1, (stepThread_blind hu s).1]
    exact ⟨⟨rfl, hE⟩, hE u hu, (stepThread_blind hu s).2.1⟩
  · rintro σ s u ⟨rfl, hE⟩ (hu | hu)
    · have hw := stepThread_within hrefl hu s
      exact ⟨⟨rfl, fun v hv => (hE v hv).trans ((stepThread_blind hv s).2.2 _ hw.1)⟩, Or.inl hw.2⟩
    · rw [(stepThread_blind hu s).1]
      exact ⟨⟨rfl, hE⟩, Or.inr (stepThread_blind hu s).2.1⟩

theorem eqExceptRng_refl (s : Shared) : EqExceptRng s s := ⟨rfl, rfl, rfl, rfl⟩

theorem eqExceptRng_trans {a b c : Shared} (h1 : EqExceptRng a b) (h2 : EqExceptRng b c) : EqExceptRng a c :=
  ⟨h1.1.trans h2.1, h1.2.1.trans h2.2.1, h1.2.2.1.trans h2.2.2.1, h1.2.2.2.trans h2.2.2.2⟩

/-- A step function that only reads, reads nothing of the random source, and keeps the thread's
draw. Everything the server's requests do is of this kind; the class is closed under the ways the
programs of `Model/SharedCells.lean` branch, so no action has to be taken apart case by case. -/
def QuietF (f : Shared → Local → Shared × Local) : Prop :=
  ∀ s l, (f s l).1 = s ∧ (f s l).2.draw = l.draw ∧ ∀ r, (f { s with rng := r } l).2 = (f s l).2

theorem QuietF.local {g : Local → Local} (hg : ∀ l, (g l).draw = l.draw := by exact fun _ => rfl) :
    QuietF fun s l => (s, g l) :=
  fun _ l => ⟨rfl, hg l, fun _ => rfl⟩

theorem QuietF.ite {c : Local → Prop} [DecidablePred c] {f g : Shared → Local → Shared × Local}
    (hf : QuietF f) (hg : QuietF g) : QuietF fun s l => if c l then f s l else g s l := by
  intro s l
  by_cases h : c l
  · simp only [if_pos h]; exact hf s l
  · simp only [if_neg h]; exact hg s l

theorem QuietF.onErr {f : Shared → Local → Shared × Local} {g : ErrObj → Shared → Local → Shared × Local}
    (hf : QuietF f) (hg : ∀ e, QuietF (g e)) :
    QuietF fun s l => match getErr s l with | none => f s l | some e => g e s l := by
  intro s l
  have : ∀ r, getErr { s with rng := r } l = getErr s l := fun _ => rfl
  simp only [this]
  cases getErr s l with
  | none => exact hf s l
  | some e => exact hg e s l

theorem QuietF.onTree {k : Nat} {f : Shared → Local → Shared × Local}
    {g : List Nat → Shared → Local → Shared × Local} (hf : QuietF f) (hg : ∀ ms, QuietF (g ms)) :
    QuietF fun s l => match s.tree.lookup k with | none => f s l | some ms => g ms s l := by
  intro s l
  dsimp only
  cases s.tree.lookup k with
  | none => exact hf s l
  | some ms => exact hg ms s l

theorem aRoute_quiet (C : Consts) (q : Req) : QuietF (aRoute C q).step :=
  .ite .local
    (.onTree .local fun _ => .ite .local .local)

theorem aInvoke_quiet (C : Consts) (q : Req) : QuietF (aInvoke C q).step := by
  refine .ite .local (.ite .local ?_)
  cases q.impl <;> exact .local

theorem aCopyErr_quiet : QuietF aCopyErr.step :=
  .ite .local (.onErr .local fun _ => .local)

theorem aReadStatus_quiet (C : Consts) : QuietF (aReadStatus C).step :=
  .ite .local (.onErr .local fun _ => .local)

theorem aTestMessage_quiet : QuietF aTestMessage.step :=
  .ite .local (.onErr .local fun _ => .local)

theorem aFillRead_quiet (C : Consts) (fixed : Bool) : QuietF (aFillRead C fixed).step := by
  refine .ite .local (.ite .local (.onErr .local fun e => ?_))
  cases e.status with
  | some c => exact .local
  | none => cases fixed <;> exact .local

theorem aMarshalStatus_quiet : QuietF aMarshalStatus.step :=
  .ite .local (.onErr .local fun _ => .local)

theorem aMarshalMessage_quiet : QuietF aMarshalMessage.step :=
  .ite .local (.onErr .local fun _ => .local)

theorem setLocalErrMessage_draw (l : Local) (m : Msg) : (setLocalErrMessage l m).draw = l.draw := by
  unfold setLocalErrMessage; split <;> rfl

theorem aFillWrite_copying_quiet : QuietF (aFillWrite true).step := by
  refine .ite .local fun s l => ?_
  split
  · exact ⟨rfl, setLocalErrMessage_draw l _, fun _ => rfl⟩
  · exact ⟨rfl, rfl, fun _ => rfl⟩

theorem aLoadAdapter_quiet (ty : Nat) : QuietF (aLoadAdapter ty).step :=
  fun _ _ => ⟨rfl, rfl, fun _ => rfl⟩

/-- every access of the copying `ServeHTTP` is a read, and none looks at the random source -/
theorem serveProg_copying_quiet (C : Consts) (q : Req) : ∀ a ∈ serveProg C true q, QuietF a.step := by
  intro a ha
  simp only [serveProg, if_true, List.cons_append, List.nil_append, List.mem_cons, List.not_mem_nil, or_false] at ha
  rcases ha with rfl | rfl | rfl | rfl | rfl | rfl | rfl | rfl | rfl
  · exact aRoute_quiet C q
  · exact aInvoke_quiet C q
  · exact aCopyErr_quiet
  · exact aReadStatus_quiet C
  · exact aTestMessage_quiet
  · exact aFillRead_quiet C true
  · exact aFillWrite_copying_quiet
  · exact aMarshalStatus_quiet
  · exact aMarshalMessage_quiet

theorem loadProg_quiet (ty : Nat) : ∀ a ∈ loadProg ty, QuietF a.step := by
  intro a ha
  rw [loadProg, List.mem_singleton] at ha
  exact ha ▸ aLoadAdapter_quiet ty

theorem QuietF.blind {a : Act} (h : QuietF a.step) :
    (∀ s l, (a.step s l).1 = s) ∧ ∀ s s' l, EqExceptRng s s' → (a.step s l).2 = (a.step s' l).2 :=
  ⟨fun s l => (h s l).1, fun s s' l hr => by
    have : s' = { s with rng := s'.rng } := by
      obtain ⟨h1, h2, h3, h4⟩ := hr
      cases s'; cases h1; cases h2; cases h3; cases h4; rfl
    rw [this]; exact ((h s l).2.2 _).symm⟩

/-- the programs of a server: requests through the copying `ServeHTTP`, and adapter look-ups -/
theorem serverProgs_quiet (C : Consts) (reqs : List Req) (tys : List Nat) :
    ∀ p ∈ reqs.map (serveProg C true) ++ tys.map loadProg, ∀ a ∈ p, QuietF a.step := by
  intro p hp a ha
  rcases List.mem_append.1 hp with hp | hp
  · obtain ⟨q, _, rfl⟩ := List.mem_map.1 hp; exact serveProg_copying_quiet C q a ha
  · obtain ⟨ty, _, rfl⟩ := List.mem_map.1 hp; exact loadProg_quiet ty a ha

theorem QuietF.readOnlyAt {a : Act} (h : QuietF a.step) (s0 : Shared) : ReadOnlyAt s0 (fun _ => True) a :=
  fun l _ => ⟨(h s0 l).1, trivial⟩

theorem aChoose_step (s : Shared) (l : Local) :
    (aChoose.step s l).1 = s ∧ (aChoose.step s l).2.draw = l.draw := by
  simp only [aChoose]; split <;> exact ⟨rfl, rfl⟩

/-- the resolver's accesses change nothing but the random source's position -/
theorem resolveProg_within (locked : Bool) : ∀ a ∈ resolveProg locked, ∀ s l, EqExceptRng s (a.step s l).1 := by
  have hread : ∀ s l, EqExceptRng s (aLoadSnapshot.step s l).1 := fun s _ => eqExceptRng_refl s
  have hchoose : ∀ s l, EqExceptRng s (aChoose.step s l).1 := fun s l => by
    rw [(aChoose_step s l).1]; exact eqExceptRng_refl s
  cases locked
  · have hwrite : ∀ s l, EqExceptRng s (aRngWrite.step s l).1 := fun s l => by
      simp only [aRngWrite]; split <;> exact ⟨rfl, rfl, rfl, rfl⟩
    exact List.forall_mem_cons.2 ⟨hread, List.forall_mem_cons.2 ⟨fun s _ => eqExceptRng_refl s,
      List.forall_mem_cons.2 ⟨hwrite, List.forall_mem_cons.2 ⟨hchoose, fun _ h => nomatch h⟩⟩⟩⟩
  · exact List.forall_mem_cons.2 ⟨hread, List.forall_mem_cons.2 ⟨fun _ _ => ⟨rfl, rfl, rfl, rfl⟩,
      List.forall_mem_cons.2 ⟨hchoose, fun _ h => nomatch h⟩⟩⟩

theorem advance_within_rel {t : Thread Shared Local}
    (h : ∀ a ∈ t.todo, ∀ s l, EqExceptRng s (a.step s l).1) (s : Shared) (k : Nat) :
    EqExceptRng s (advance s t k).1 := by
  induction k generalizing s t with
  | zero => exact eqExceptRng_refl s
  | succ k ih =>
    rw [advance_succ]
    have hs := stepThread_within eqExceptRng_refl (R := EqExceptRng) (t := t) h s
    exact eqExceptRng_trans hs.1 (ih hs.2 _)

theorem mem_mkSys {s : Shared} {progs : List (List Act)} {t : Thread Shared Local}
    (h : t ∈ (mkSys s progs).threads) : t.loc = {} ∧ t.todo ∈ progs := by
  simp only [mkSys, List.mem_map] at h
  obtain ⟨p, hp, rfl⟩ := h
  exact ⟨rfl, hp⟩

/-- an action is the locked draw, or leaves both the generator position and the thread's draw alone -/
def DrawOrInert (a : Act) : Prop :=
  a = aRngDrawLocked ∨ ∀ s l, (a.step s l).1.rng = s.rng ∧ (a.step s l).2.draw = l.draw

theorem stepSys_drawsOk {s : Shared} {ts : List (Thread Shared Local)}
    (hacts : ∀ t ∈ ts, ∀ a ∈ t.todo, DrawOrInert a) (hok : DrawsOk s ts) (i : Nat) :
    DrawsOk (stepSys ⟨s, ts⟩ i).shared (stepSys ⟨s, ts⟩ i).threads ∧
    ∀ t ∈ (stepSys ⟨s, ts⟩ i).threads, ∀ a ∈ t.todo, DrawOrInert a := by
  cases hi : ts[i]? with
  | none => rw [stepSys_of_none hi]; exact ⟨hok, hacts⟩
  | some t =>
    have hil : i < ts.length := (List.getElem?_eq_some_iff.mp hi).1
    have htm : t ∈ ts := List.mem_of_getElem? hi
    rw [stepSys_of_some hi]
    refine ⟨?_, fun u hu a ha => (List.mem_or_eq_of_mem_set hu).elim (fun hu => hacts u hu a ha)
      fun hu => hacts t htm a (stepThread_todo_sub s t a (hu ▸ ha))⟩
    show DrawsOk (stepThread s t).1 (ts.set i (stepThread s t).2)
    -- the generator stays or advances by one; in the second case thread `i` now holds the old position
    have hstep : ((stepThread s t).1.rng = s.rng ∧ (stepThread s t).2.loc.draw = t.loc.draw) ∨
        ((stepThread s t).1.rng = s.rng + 1 ∧ (stepThread s t).2.loc.draw = some s.rng) := by
      unfold stepThread
      split
      · exact Or.inl ⟨rfl, rfl⟩
      · rename_i a rest hq
        rcases hacts t htm a (by rw [hq]; exact List.mem_cons_self) with rfl | h
        · exact Or.inr ⟨rfl, rfl⟩
        · exact Or.inl (h s t.loc)
    have hle : s.rng ≤ (stepThread s t).1.rng :=
      hstep.elim (fun h => h.1 ▸ Nat.le_refl _) (fun h => h.1 ▸ Nat.le_succ _)
    -- every draw held after the step was held before by the same thread, or is the fresh one
    have hold : ∀ j u d, (ts.set i (stepThread s t).2)[j]? = some u → u.loc.draw = some d →
        (∃ u₀, ts[j]? = some u₀ ∧ u₀.loc.draw = some d) ∨
        (j = i ∧ d = s.rng ∧ (stepThread s t).1.rng = s.rng + 1) := by
      intro j u d hj hd
      by_cases e : i = j
      · subst e
        rw [List.getElem?_set_self hil] at hj; cases hj
        rcases hstep with h | h
        · exact Or.inl ⟨t, hi, h.2 ▸ hd⟩
        · exact Or.inr ⟨rfl, Option.some.inj (hd.symm.trans h.2), h.1⟩
      · rw [List.getElem?_set_ne e] at hj; exact Or.inl ⟨u, hj, hd⟩
    constructor
    · intro j u d hj hd
      rcases hold j u d hj hd with ⟨u₀, h₀, hd₀⟩ | ⟨_, rfl, hr⟩
      · exact Nat.lt_of_lt_of_le (hok.1 j u₀ d h₀ hd₀) hle
      · exact hr ▸ Nat.lt_succ_self _
    · intro j k uj uk d hjk hj hk hdj hdk
      rcases hold j uj d hj hdj with ⟨uj₀, hj₀, hdj₀⟩ | ⟨rfl, hdj', _⟩ <;>
        rcases hold k uk d hk hdk with ⟨uk₀, hk₀, hdk₀⟩ | ⟨rfl, hdk', _⟩
      · exact hok.2 j k uj₀ uk₀ d hjk hj₀ hk₀ hdj₀ hdk₀
      · exact Nat.lt_irrefl _ (hdk' ▸ hok.1 j uj₀ d hj₀ hdj₀)
      · exact Nat.lt_irrefl _ (hdj' ▸ hok.1 k uk₀ d hk₀ hdk₀)
      · exact hjk rfl

/-- any programs made of such actions, started fresh (fresh threads hold no draw) -/
theorem mkSys_drawsOk (s : Shared) (progs : List (List Act)) (h : ∀ p ∈ progs, ∀ a ∈ p, DrawOrInert a)
    (sched : Schedule) :
    DrawsOk (run (mkSys s progs) sched).shared (run (mkSys s progs) sched).threads := by
  refine (run_induction (fun sys => DrawsOk sys.shared sys.threads ∧ ∀ t ∈ sys.threads, ∀ a ∈ t.todo, DrawOrInert a)
    (fun _ i h => stepSys_drawsOk h.2 h.1 i) sched _ ⟨⟨?_, ?_⟩, fun t ht => h _ (mem_mkSys ht).2⟩).1
  · intro i t d hi hd
    rw [(mem_mkSys (List.mem_of_getElem? hi)).1] at hd; cases hd
  · intro i j ti tj d _ hi _ hd
    rw [(mem_mkSys (List.mem_of_getElem? hi)).1] at hd; cases hd

theorem QuietF.drawOrInert {a : Act} (h : QuietF a.step) : DrawOrInert a :=
  Or.inr fun s l => ⟨by rw [(h s l).1], (h s l).2.1⟩

theorem resolveProg_locked_drawOrInert : ∀ a ∈ resolveProg true, DrawOrInert a :=
  List.forall_mem_cons.2 ⟨Or.inr fun _ _ => ⟨rfl, rfl⟩, List.forall_mem_cons.2 ⟨Or.inl rfl,
    List.forall_mem_cons.2 ⟨Or.inr fun s l => ⟨by rw [(aChoose_step s l).1], (aChoose_step s l).2⟩,
      fun _ h => nomatch h⟩⟩⟩

theorem resolverProgs_drawOrInert (C : Consts) (n : Nat) (reqs : List Req) (tys : List Nat) :
    ∀ p ∈ List.replicate n (resolveProg true) ++ (reqs.map (serveProg C true) ++ tys.map loadProg),
      ∀ a ∈ p, DrawOrInert a := by
  intro p hp a ha
  rcases List.mem_append.1 hp with hp | hp
  · exact resolveProg_locked_drawOrInert a (List.eq_of_mem_replicate hp ▸ ha)
  · exact (serverProgs_quiet C reqs tys p hp a ha).drawOrInert

theorem serveNow_of_copying {C : Consts} (h : C.storesThroughPointer = false) :
    serveNow C = serveProg C true := by
  funext q; rw [serveNow, h]; rfl

/-- for any constants whose error branch completes a copy; C17 instantiates the two module generations -/
theorem serverSys_commutes (C : Consts) (hC : C.storesThroughPointer = false) (s : Shared)
    (reqs : List Req) (tys : List Nat) (sched : Schedule) :
    (run (serverSys C s reqs tys) sched).shared = s ∧
    ∀ i t, (serverSys C s reqs tys).threads[i]? = some t → t.todo.length ≤ sched.count i →
      (run (serverSys C s reqs tys) sched).threads[i]? = some (runAlone s t).2 := by
  have hro : ∀ t ∈ (serverSys C s reqs tys).threads, ThreadRO s (fun _ => True) t := by
    intro t ht
    rw [serverSys, serveNow_of_copying hC] at ht
    exact ⟨trivial, fun a ha => (serverProgs_quiet C reqs tys _ (mem_mkSys ht).2 a ha).readOnlyAt s⟩
  have h := run_ro _ _ hro sched
  exact ⟨h.1, fun i t hi hd => advance_ge hd ▸ (h.2 i t hi).2⟩

theorem run_region (R : S → S → Prop) (hrefl : ∀ s, R s s) (htrans : ∀ a b c, R a b → R b c → R a c)
    (sys : Sys S L) (hkinds : ∀ t ∈ sys.threads, ThreadWithin R t ∨ ThreadBlind R t) (sched : Schedule) :
    R sys.shared (run sys sched).shared := by
  refine (run_shared_inv (R sys.shared) (fun t => ThreadWithin R t ∨ ThreadBlind R t) ?_ sched sys
    (hrefl _) hkinds).1
  rintro s u hs (hu | hu)
  · exact ⟨htrans _ _ _ hs (stepThread_within hrefl hu s).1, Or.inl (stepThread_within hrefl hu s).2⟩
  · exact ⟨(stepThread_blind hu s).1.symm ▸ hs, Or.inr (stepThread_blind hu s).2.1⟩

theorem resolverSys_commutes (C : Consts) (hserve : C.storesThroughPointer = false)
    (hlock : C.rngUnlocked = false) (s : Shared) (n : Nat) (reqs : List Req) (tys : List Nat)
    (sched : Schedule) :
    EqExceptRng s (run (resolverSys C s n reqs tys) sched).shared ∧
    DrawsOk (run (resolverSys C s n reqs tys) sched).shared (run (resolverSys C s n reqs tys) sched).threads ∧
    ∀ i t, (resolverSys C s n reqs tys).threads[i]? = some t → t.todo ≠ resolveNow C →
      t.todo.length ≤ sched.count i →
      (run (resolverSys C s n reqs tys) sched).threads[i]? = some (runAlone s t).2 := by
  have hres : resolveNow C = resolveProg true := by rw [resolveNow, hlock]; rfl
  have hsys : resolverSys C s n reqs tys =
      mkSys s (List.replicate n (resolveProg true) ++ (reqs.map (serveProg C true) ++ tys.map loadProg)) := by
    rw [resolverSys, hres, serveNow_of_copying hserve]
  -- one walk through the programs: a thread is a resolver call (stays in the region) or is blind to the region
  have hclass : ∀ t ∈ (resolverSys C s n reqs tys).threads,
      t.todo = resolveNow C ∧ ThreadWithin EqExceptRng t ∨ ThreadBlind EqExceptRng t := by
    intro t ht
    rw [hsys] at ht
    rcases List.mem_append.1 (mem_mkSys ht).2 with hp | hp
    · have hp := List.eq_of_mem_replicate hp
      exact Or.inl ⟨hres ▸ hp, fun a ha => resolveProg_within true a (hp ▸ ha)⟩
    · exact Or.inr fun a ha => (serverProgs_quiet C reqs tys _ hp a ha).blind
  have hkinds := fun t ht => (hclass t ht).imp_left And.right
  refine ⟨run_region EqExceptRng eqExceptRng_refl (fun _ _ _ => eqExceptRng_trans) _ hkinds sched, ?_,
    fun i t hi hne hd => ?_⟩
  · rw [hsys]; exact mkSys_drawsOk s _ (resolverProgs_drawOrInert C n reqs tys) sched
  · exact advance_ge hd ▸ run_blind EqExceptRng eqExceptRng_refl _ hkinds sched i t hi
      ((hclass t (List.mem_of_getElem? hi)).resolve_left fun h => hne h.1)

/-! ### The storing error branch (`serveProg C false`) writes nothing shared when every shared error object already carries a message -/

/-- every error object resource code shares between requests has its `Message` set -/
def ErrFilled (s : Shared) : Prop := ∀ e ∈ s.errs, e.message.isSome = true

instance (s : Shared) : Decidable (ErrFilled s) := by unfold ErrFilled; exact inferInstance

/-- invariant of request-local states: a pending fill targets a request-local object -/
def FillLocal (l : Local) : Prop := l.needFill = true → ∃ e, l.err = some (.fresh e)

theorem guarded_ro {s0 : Shared} {f : Shared → Local → Shared × Local}
    (h : ∀ l, FillLocal l → (f s0 l).1 = s0 ∧ FillLocal (f s0 l).2) :
    ReadOnlyAt s0 FillLocal (guarded f) := by
  intro l hl; simp only [guarded]; split
  · exact ⟨rfl, hl⟩
  · exact h l hl

theorem aRoute_ro (C : Consts) (q : Req) (s0 : Shared) : ReadOnlyAt s0 FillLocal (aRoute C q) := by
  apply guarded_ro; intro l hl
  split
  · exact ⟨rfl, hl⟩
  · split
    · exact ⟨rfl, hl⟩
    · exact ⟨rfl, fun _ => ⟨_, rfl⟩⟩

theorem aInvoke_ro (C : Consts) (q : Req) (s0 : Shared) : ReadOnlyAt s0 FillLocal (aInvoke C q) := by
  apply guarded_ro; intro l hl
  split
  · exact ⟨rfl, hl⟩
  · rename_i hnone
    have hnf : l.needFill ≠ true := by
      intro h; obtain ⟨e, he⟩ := hl h; rw [he] at hnone; simp at hnone
    split
    · exact ⟨rfl, hl⟩
    all_goals exact ⟨rfl, fun h => absurd h hnf⟩

theorem aReadStatus_ro (C : Consts) (s0 : Shared) : ReadOnlyAt s0 FillLocal (aReadStatus C) := by
  apply guarded_ro; intro l hl; split <;> exact ⟨rfl, hl⟩

theorem aTestMessage_ro {s0 : Shared} (hf : ErrFilled s0) : ReadOnlyAt s0 FillLocal aTestMessage := by
  apply guarded_ro; intro l hl
  split
  · exact ⟨rfl, hl⟩
  · rename_i e he
    refine ⟨rfl, ?_⟩
    intro hn
    have hn' : e.message.isNone = true := hn
    unfold getErr at he
    split at he
    · cases he
    · exact ⟨_, by assumption⟩
    · have hmem : e ∈ s0.errs := List.mem_of_getElem? he
      have := hf e hmem
      cases hm : e.message <;> simp [hm] at this hn'

theorem aFillRead_ro (C : Consts) (fixed : Bool) (s0 : Shared) : ReadOnlyAt s0 FillLocal (aFillRead C fixed) := by
  apply guarded_ro; intro l hl
  -- whichever branch is taken, `needFill` and `err` stay as they are
  split
  · exact ⟨rfl, hl⟩
  · split
    · exact ⟨rfl, hl⟩
    · split
      · exact ⟨rfl, hl⟩
      · split <;> exact ⟨rfl, hl⟩

theorem aFillWrite_ro (fixed : Bool) (s0 : Shared) : ReadOnlyAt s0 FillLocal (aFillWrite fixed) := by
  apply guarded_ro; intro l hl
  split
  · rename_i hn _
    obtain ⟨e, he⟩ := hl hn
    cases fixed
    · simp only [Bool.false_eq_true, if_false, setErrMessage, he]
      exact ⟨trivial, fun _ => ⟨_, rfl⟩⟩
    · simp only [if_true, setLocalErrMessage, he]
      exact ⟨trivial, fun _ => ⟨_, rfl⟩⟩
  · exact ⟨rfl, hl⟩

theorem aMarshalStatus_ro (s0 : Shared) : ReadOnlyAt s0 FillLocal aMarshalStatus := by
  apply guarded_ro; intro l hl; split <;> exact ⟨rfl, hl⟩

theorem aMarshalMessage_ro (s0 : Shared) : ReadOnlyAt s0 FillLocal aMarshalMessage := by
  apply guarded_ro; intro l hl; split <;> exact ⟨rfl, hl⟩

/-- under the guard, every access of the storing `ServeHTTP` leaves the shared state alone: the
store of the default message only ever reaches a request-local object -/
theorem serveProg_current_ro (C : Consts) (q : Req) {s0 : Shared} (hf : ErrFilled s0) :
    ∀ a ∈ serveProg C false q, ReadOnlyAt s0 FillLocal a := by
  intro a ha
  simp only [serveProg, Bool.false_eq_true, if_false, List.cons_append, List.nil_append, List.append_nil,
    List.mem_cons, List.not_mem_nil, or_false] at ha
  rcases ha with rfl | rfl | rfl | rfl | rfl | rfl | rfl | rfl
  · exact aRoute_ro C q s0
  · exact aInvoke_ro C q s0
  · exact aReadStatus_ro C s0
  · exact aTestMessage_ro hf
  · exact aFillRead_ro C false s0
  · exact aFillWrite_ro false s0
  · exact aMarshalStatus_ro s0
  · exact aMarshalMessage_ro s0

theorem fillLocal_init : FillLocal ({} : Local) := by intro h; cases h

end Restli.SharedCells
