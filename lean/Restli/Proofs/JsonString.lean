import Restli.Lib.JsonText
import Restli.Proofs.JsonUtf8
/-! `jwriter.String` against the strict parser: the string body the writer emits for a valid UTF-8
byte string is read back to exactly that byte string (and the parser stops right after the closing
quote). For byte strings that are not valid UTF-8 the writer substitutes U+FFFD — lossy by
design of easyjson; such strings are outside this lemma. -/
namespace Restli.Json

theorem unhex_hexLower : ∀ n, n < 16 → unhex (hexLower n) = some n := by decide

theorem u4_00 (c : UInt8) (hc : c.toNat < 128) (rest : Bytes) :
    u4 (48 :: 48 :: hexLower (c.toNat / 16) :: hexLower (c.toNat % 16) :: rest) = some (c.toNat, rest) := by
  have h1 := unhex_hexLower (c.toNat / 16) (by omega)
  have h2 := unhex_hexLower (c.toNat % 16) (by omega)
  have h0 : unhex 48 = some 0 := by decide
  simp only [u4, h0, h1, h2, Option.bind_eq_bind, Option.bind_some, Option.pure_def, Option.some.injEq, Prod.mk.injEq,
    and_true]
  omega

theorem u4_linesep (r : Nat) (hr : r = 0x2028 ∨ r = 0x2029) (rest : Bytes) :
    u4 (50 :: 48 :: 50 :: hexLower (r % 16) :: rest) = some (r, rest) := by
  rcases hr with rfl | rfl <;> rfl

/-- a byte the parser copies into the string: no quote, no control character, no backslash -/
def Plain (c : UInt8) : Prop := c ≠ 34 ∧ ¬ c < 32 ∧ c ≠ 92

theorem parseStrBody_copy (fuel : Nat) (c : UInt8) (cs : Bytes) (h : Plain c) :
    parseStrBody (fuel + 1) (c :: cs) = (parseStrBody fuel cs).map (fun (s, r) => (c :: s, r)) := by
  have e34 : (c == 34) = false := beq_eq_false_iff_ne.2 h.1
  have e92 : (c == 92) = false := beq_eq_false_iff_ne.2 h.2.2
  simp only [parseStrBody, e34, Bool.false_eq_true, ↓reduceIte, h.2.1, e92]

theorem parseStrBody_copy_run : ∀ (p : Bytes) (fuel : Nat) (cs : Bytes),
    (∀ c ∈ p, Plain c) →
    parseStrBody (fuel + p.length) (p ++ cs) = (parseStrBody fuel cs).map (fun (s, r) => (p ++ s, r)) := by
  intro p fuel cs h
  induction p with
  | nil => cases h : parseStrBody fuel cs <;> simp [h]
  | cons c p ih =>
    have ih := ih (fun x hx => h x (List.mem_cons_of_mem _ hx))
    rw [List.length_cons, ← Nat.add_assoc, List.cons_append, parseStrBody_copy _ c _ (h c List.mem_cons_self), ih]
    cases parseStrBody fuel cs <;> rfl

theorem parseStrBody_u (fuel : Nat) (es after : Bytes) (r : Nat) (hu : u4 es = some (r, after))
    (hr : ¬ (0xD800 ≤ r ∧ r ≤ 0xDFFF)) :
    parseStrBody (fuel + 1) (92 :: 117 :: es) =
      (parseStrBody fuel after).map (fun (s, rest) => (Utf8.encodeRune r ++ s, rest)) := by
  simp +decide only [parseStrBody, hu, hr, ↓reduceIte, Bool.and_eq_true, decide_eq_true_eq]

theorem escapeAscii_head (c : UInt8) : (escapeAscii c).head? = some 92 := by
  simp only [escapeAscii, apply_ite List.head?, List.head?_cons, ite_self]

/-- the two-character escapes and `\u00XY` -/
theorem parse_escapeAscii (c : UInt8) (hc : c.toNat < 128) (fuel : Nat) (cs : Bytes) :
    parseStrBody (fuel + 1) (escapeAscii c ++ cs) = (parseStrBody fuel cs).map (fun (s, r) => (c :: s, r)) := by
  by_cases h : c = 9 ∨ c = 13 ∨ c = 10 ∨ c = 92 ∨ c = 34
  · rcases h with rfl | rfl | rfl | rfl | rfl <;>
      simp +decide only [escapeAscii, parseStrBody, ↓reduceIte, List.cons_append, List.nil_append]
  · simp only [not_or, ← beq_eq_false_iff_ne] at h
    simp only [escapeAscii, h, Bool.false_eq_true, ↓reduceIte, List.cons_append, List.nil_append]
    rw [parseStrBody_u fuel _ cs c.toNat (u4_00 c hc cs) (by omega), Utf8.encodeRune_scalar _ (by omega) (by omega),
      if_pos hc, UInt8.ofNat_toNat]
    rfl

theorem asciiSafe_plain (c : UInt8) (h : asciiSafe c = true) : Plain c := by
  simp only [asciiSafe, Bool.and_eq_true, decide_eq_true_eq, bne_iff_ne, ne_eq] at h
  exact ⟨h.1.1.1.1.2, UInt8.not_lt.2 h.1.1.1.1.1, h.2⟩

theorem high_plain (c : UInt8) (h : 0x80 ≤ c.toNat) : Plain c := by
  refine ⟨?_, ?_, ?_⟩
  · rintro rfl; exact absurd h (by decide)
  · rw [UInt8.lt_iff_toNat_lt]; exact Nat.not_lt.2 (Nat.le_trans (by decide) h)
  · rintro rfl; exact absurd h (by decide)

theorem validGo_step (n : Nat) (c : UInt8) (r : Bytes) (rr w : Nat) (hd : Utf8.decodeRune (c :: r) = (rr, w))
    (hv : Utf8.validUtf8.go (n + 1) (c :: r) = true) :
    ¬ (rr = Utf8.runeError ∧ w ≤ 1) ∧ Utf8.validUtf8.go n ((c :: r).drop w) = true := by
  simp only [Utf8.validUtf8.go, hd] at hv
  by_cases hbad : (rr == Utf8.runeError && decide (w ≤ 1)) = true
  · rw [if_pos hbad] at hv; cases hv
  · rw [if_neg hbad] at hv
    exact ⟨fun h => hbad (by simp only [h, beq_self_eq_true, decide_true, Bool.and_self]), hv⟩

/-- **the writer's string body parses back**: for every valid UTF-8 byte string, with any fuel
exceeding the length of the escaped text -/
theorem parse_escapeBody : ∀ (n : Nat) (s : Bytes) (f : Nat) (rest : Bytes),
    (escapeBody n s).length < f → Utf8.validUtf8.go n s = true →
    parseStrBody f (escapeBody n s ++ 34 :: rest) = some (s, rest) := by
  intro n s f rest hf hv
  induction n generalizing s f with
  | zero =>
    obtain ⟨f, rfl⟩ := Nat.exists_eq_add_one.2 (Nat.zero_lt_of_lt hf)
    cases s with
    | nil => rfl
    | cons _ _ => nomatch hv
  | succ n ih =>
    obtain ⟨f, rfl⟩ := Nat.exists_eq_add_one.2 (Nat.zero_lt_of_lt hf)
    cases s with
    | nil => rfl
    | cons c r =>
      by_cases hc : c.toNat < 128
      · -- ASCII: copied, or one escape; one unit of fuel either way
        obtain ⟨_, hv'⟩ := validGo_step n c r _ _ (Utf8.decodeRune_ascii c r hc) hv
        have hc' : c < 128 := UInt8.lt_iff_toNat_lt.2 hc
        by_cases hs : asciiSafe c = true
        · simp only [escapeBody, hc', hs, ↓reduceIte, List.cons_append, List.nil_append, List.length_cons] at hf ⊢
          rw [parseStrBody_copy f c _ (asciiSafe_plain c hs), ih r f (Nat.lt_of_succ_lt_succ hf) hv']
          rfl
        · simp only [escapeBody, hc', hs, Bool.false_eq_true, ↓reduceIte, List.append_assoc, List.length_append] at hf ⊢
          have := List.length_pos_of_mem (List.mem_of_mem_head? (escapeAscii_head c))
          rw [parse_escapeAscii c hc f _, ih r f (by omega) hv']
          rfl
      · -- a multi-byte sequence: `c :: r = Utf8.encodeRune rr ++ tail`, escaped as `\u202X` or copied
        cases hd : Utf8.decodeRune (c :: r) with
        | mk rr w =>
          obtain ⟨hvalid, hv'⟩ := validGo_step n c r rr w hd hv
          obtain ⟨tail, hsplit, rfl, hw2, hhigh⟩ := Utf8.encodeRune_decodeRune c r rr w hc hd hvalid
          have hc' : ¬ c < 128 := fun h => hc (UInt8.lt_iff_toNat_lt.1 h)
          have hlossy : (rr == Utf8.runeError && (Utf8.encodeRune rr).length == 1) = false := by
            rw [Bool.and_eq_false_iff]; right; rw [beq_eq_false_iff_ne]; omega
          simp only [escapeBody, hc', ↓reduceIte, hd, hlossy, Bool.false_eq_true] at hf ⊢
          rw [hsplit, List.drop_left, List.take_left] at hf ⊢
          rw [hsplit, List.drop_left] at hv'
          by_cases hls : rr = 0x2028 ∨ rr = 0x2029
          · have hls' : (rr == 0x2028 || rr == 0x2029) = true := by simpa using hls
            simp only [hls', ↓reduceIte, List.cons_append, List.nil_append, List.length_cons] at hf ⊢
            rw [parseStrBody_u f _ _ rr (u4_linesep rr hls _) (by omega),
              ih tail f (by omega) hv']
            rfl
          · have hls' : (rr == 0x2028 || rr == 0x2029) = false := by simpa using hls
            simp only [hls', Bool.false_eq_true, ↓reduceIte, List.append_assoc, List.length_append] at hf ⊢
            obtain ⟨f', hf'⟩ : ∃ f', f + 1 = f' + (Utf8.encodeRune rr).length :=
              ⟨f + 1 - (Utf8.encodeRune rr).length, by omega⟩
            rw [hf', parseStrBody_copy_run _ f' _ (fun x hx => high_plain x (hhigh x hx)),
              ih tail f' (by omega) hv']
            rfl

/-- the parser's own fuel for a string (the length of what follows the opening quote, plus one) suffices -/
theorem parseStrBody_jsonString (s rest : Bytes) (hv : Utf8.validUtf8 s = true) :
    parseStrBody ((escapeBody s.length s ++ 34 :: rest).length + 1) (escapeBody s.length s ++ 34 :: rest) =
      some (s, rest) :=
  parse_escapeBody s.length s _ rest (by rw [List.length_append]; omega) hv

/-- `jwriter.String(s)` followed by anything is read by the strict parser as the string `s` -/
theorem parseValue_jsonString (s rest : Bytes) (fuel : Nat) (hv : Utf8.validUtf8 s = true) :
    parseValue (fuel + 1) (jsonString s ++ rest) = some (.str s, rest) := by
  simp +decide only [jsonString, List.cons_append, List.append_assoc, List.nil_append, parseValue, skipWs, ↓reduceIte,
    parseStrBody_jsonString s rest hv]
  rfl

end Restli.Json
