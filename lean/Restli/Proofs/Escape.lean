import Restli.Lib.Escape
import Restli.Proofs.Bytes
/-! Round trip and cleanliness of the three ROR2 string escapers against Go's unescapers. -/
namespace Restli.Escape

theorem escapeWith_cons (safe : List UInt8) (c : UInt8) (cs : Bytes) :
    escapeWith safe (c :: cs) = escOne safe c ++ escapeWith safe cs := List.flatMap_cons

theorem replaceWith_cons (pairs : List (UInt8 × Bytes)) (c : UInt8) (cs : Bytes) :
    replaceWith pairs (c :: cs) = replOne pairs c ++ replaceWith pairs cs := List.flatMap_cons

theorem unescape_cons_plain (plus : Bool) (c : UInt8) (rest : Bytes) (h37 : c ≠ 37)
    (h43 : plus = true → c ≠ 43) :
    unescape plus (c :: rest) = (unescape plus rest).map (c :: ·) := by
  have e1 : (c == 37) = false := beq_eq_false_iff_ne.mpr h37
  cases plus with
  | false => simp only [unescape, unescAux, e1, Bool.false_eq_true, ↓reduceIte, Bool.false_and]
  | true =>
    have e2 : (c == 43) = false := beq_eq_false_iff_ne.mpr (h43 rfl)
    simp only [unescape, unescAux, e1, e2, Bool.false_eq_true, ↓reduceIte, Bool.and_false]

theorem unescape_of_plain (plus : Bool) (t : Bytes) (h : ∀ c ∈ t, c ≠ 37 ∧ c ≠ 43) : unescape plus t = some t := by
  induction t with
  | nil => rfl
  | cons c cs ih =>
    have hc := h c (List.mem_cons_self ..)
    rw [unescape_cons_plain plus c cs hc.1 (fun _ => hc.2), ih (fun x hx => h x (List.mem_cons_of_mem _ hx))]
    rfl

/-- `%xy` decodes to the byte whose hex digits are `x` and `y` -/
theorem unescape_hex (plus : Bool) (x y : UInt8) (h l : Nat) (hx : unhex x = some h) (hy : unhex y = some l)
    (rest : Bytes) :
    unescape plus (37 :: x :: y :: rest) = (unescape plus rest).map (UInt8.ofNat (h * 16 + l) :: ·) := by
  simp only [unescape, unescAux, beq_self_eq_true, ↓reduceIte, hx, hy]

/-- the ROR2 structural bytes: ( ) , : ' -/
def reserved : List UInt8 := [40, 41, 44, 58, 39]

/-- the sixteen digits `hexEscape` writes: each is read back by `unhex`, none is structural -/
theorem hexUpper_spec : ∀ n : Fin 16, unhex (hexUpper n.val) = some n.val ∧ hexUpper n.val ∉ reserved := by
  decide +kernel

theorem unescape_pct (plus : Bool) (c : UInt8) (rest : Bytes) :
    unescape plus (pct c ++ rest) = (unescape plus rest).map (c :: ·) := by
  have h1 : c.toNat / 16 < 16 := Nat.div_lt_of_lt_mul c.toNat_lt
  have h2 : c.toNat % 16 < 16 := Nat.mod_lt _ (by decide)
  rw [pct, List.cons_append, List.cons_append, List.cons_append, List.nil_append,
    unescape_hex plus _ _ _ _ (hexUpper_spec ⟨_, h1⟩).1 (hexUpper_spec ⟨_, h2⟩).1, Nat.div_add_mod',
    UInt8.ofNat_toNat]

/-- decoding what the table-driven escaper wrote gives the original bytes, for every byte string -/
theorem unescape_escapeWith (safe : List UInt8) (plus : Bool) (h37 : safe.contains 37 = false)
    (h43 : plus = true → safe.contains 43 = false) (b : Bytes) :
    unescape plus (escapeWith safe b) = some b := by
  induction b with
  | nil => rfl
  | cons c cs ih =>
    rw [escapeWith_cons, escOne]
    split
    · next hc =>
      have n37 : c ≠ 37 := fun h => by rw [h, h37] at hc; cases hc
      have n43 : plus = true → c ≠ 43 := fun hp h => by rw [h, h43 hp] at hc; cases hc
      rw [List.singleton_append, unescape_cons_plain plus c _ n37 n43, ih]; rfl
    · rw [unescape_pct, ih]; rfl

theorem escapeWith_clean (safe : List UInt8) (hs : ∀ r ∈ reserved, safe.contains r = false) (b : Bytes) :
    ∀ c ∈ escapeWith safe b, c ∉ reserved := by
  intro c hc
  obtain ⟨x, _, hc⟩ := List.mem_flatMap.1 hc
  rw [escOne] at hc
  split at hc
  · next hx =>
    rw [List.mem_singleton.1 hc]
    intro hr
    rw [hs x hr] at hx
    cases hx
  · have h1 : x.toNat / 16 < 16 := Nat.div_lt_of_lt_mul x.toNat_lt
    have h2 : x.toNat % 16 < 16 := Nat.mod_lt _ (by decide)
    simp only [pct, List.mem_cons, List.not_mem_nil, or_false] at hc
    rcases hc with rfl | rfl | rfl
    · decide
    · exact (hexUpper_spec ⟨_, h1⟩).2
    · exact (hexUpper_spec ⟨_, h2⟩).2

theorem escapeWith_ne_nil (safe : List UInt8) (b : Bytes) (h : b ≠ []) : escapeWith safe b ≠ [] := by
  cases b with
  | nil => exact absurd rfl h
  | cons c cs =>
    rw [escapeWith_cons, escOne]
    split
    · exact List.cons_ne_nil _ _
    · exact List.cons_ne_nil _ _

/-- a replacement is the 3-byte percent encoding of its pattern -/
def goodPair (p : UInt8 × Bytes) : Bool :=
  match p.2 with
  | [a, x, y] =>
    a == 37 && (match unhex x, unhex y with
      | some h, some l => UInt8.ofNat (h * 16 + l) == p.1
      | _, _ => false)
  | _ => false

theorem unescape_goodPair (p : UInt8 × Bytes) (hp : goodPair p = true) (rest : Bytes) :
    unescape false (p.2 ++ rest) = (unescape false rest).map (p.1 :: ·) := by
  obtain ⟨c, r⟩ := p
  simp only [goodPair] at hp ⊢
  split at hp
  · next a x y =>
    rw [Bool.and_eq_true, beq_iff_eq] at hp
    obtain ⟨rfl, hxy⟩ := hp
    split at hxy
    · next h l hx hy =>
      rw [beq_iff_eq] at hxy
      rw [← hxy]
      exact unescape_hex false x y h l hx hy rest
    · cases hxy
  · cases hp

/-- decoding what the header replacer wrote gives the original bytes, provided '%' itself is one
of the patterns and every replacement is the percent-encoding of its pattern -/
theorem unescape_replaceWith (pairs : List (UInt8 × Bytes)) (hg : ∀ p ∈ pairs, goodPair p = true)
    (h37 : (pairs.lookup 37).isSome = true) (b : Bytes) :
    unescape false (replaceWith pairs b) = some b := by
  induction b with
  | nil => rfl
  | cons c cs ih =>
    rw [replaceWith_cons, replOne]
    split
    · next r hl =>
      rw [unescape_goodPair (c, r) (hg _ (lookup_mem hl)), ih]; rfl
    · next hl =>
      have n37 : c ≠ 37 := fun h => by rw [← h, hl] at h37; cases h37
      rw [List.singleton_append, unescape_cons_plain false c _ n37 (fun h => nomatch h), ih]; rfl

theorem replaceWith_clean (pairs : List (UInt8 × Bytes))
    (hk : ∀ r ∈ reserved, (pairs.lookup r).isSome = true)
    (hv : ∀ p ∈ pairs, ∀ c ∈ p.2, c ∉ reserved) (b : Bytes) :
    ∀ c ∈ replaceWith pairs b, c ∉ reserved := by
  intro c hc
  obtain ⟨x, _, hc⟩ := List.mem_flatMap.1 hc
  rw [replOne] at hc
  split at hc
  · next r hl => exact hv _ (lookup_mem hl) c hc
  · next hl =>
    rw [List.mem_singleton.1 hc]
    intro hr
    have := hk x hr
    rw [hl] at this
    cases this

theorem replaceWith_ne_nil (pairs : List (UInt8 × Bytes)) (hv : ∀ p ∈ pairs, p.2 ≠ []) (b : Bytes)
    (h : b ≠ []) : replaceWith pairs b ≠ [] := by
  cases b with
  | nil => exact absurd rfl h
  | cons c cs =>
    rw [replaceWith_cons, replOne]
    split
    · next r hl => exact fun h' => hv _ (lookup_mem hl) (List.append_eq_nil_iff.1 h').1
    · exact List.cons_ne_nil _ _

/-- the regenerated tables of one module generation -/
structure Tables where
  pathSafe : List UInt8
  querySafe : List UInt8
  headerEscapes : List (UInt8 × Bytes)

def tablesV2 : Tables := ⟨Gen.pathSafe, Gen.querySafe, Gen.headerEscapes⟩
def tablesRoot : Tables := ⟨GenRoot.pathSafe, GenRoot.querySafe, GenRoot.headerEscapes⟩

/-- the side conditions the round trip needs, as one decidable predicate over the tables -/
def TablesOk (t : Tables) : Prop :=
  t.pathSafe.contains 37 = false ∧ t.querySafe.contains 37 = false ∧ t.querySafe.contains 43 = false ∧
  (∀ r ∈ reserved, t.pathSafe.contains r = false) ∧ (∀ r ∈ reserved, t.querySafe.contains r = false) ∧
  (∀ p ∈ t.headerEscapes, goodPair p = true) ∧ (t.headerEscapes.lookup 37).isSome = true ∧
  (∀ r ∈ reserved, (t.headerEscapes.lookup r).isSome = true) ∧
  (∀ p ∈ t.headerEscapes, ∀ c ∈ p.2, c ∉ reserved) ∧ (∀ p ∈ t.headerEscapes, p.2 ≠ [])

instance (t : Tables) : Decidable (TablesOk t) := by unfold TablesOk; infer_instance

end Restli.Escape

