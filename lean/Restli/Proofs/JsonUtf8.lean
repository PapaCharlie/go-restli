import Restli.Lib.Utf8
import Restli.Proofs.Bytes
/-! `utf8.EncodeRune` undoes `utf8.DecodeRune` on every sequence `DecodeRune` accepts
(`encodeRune_decodeRune`); `DecodeRune` undoes `EncodeRune` below U+0800 (`decodeRune_encodeRune`),
which is what one code point per byte needs. -/
namespace Restli.Json

theorem isCont_ge (lo hi : Nat) (b : UInt8) (h : Utf8.isCont lo hi b = true) : lo ≤ b.toNat ∧ b.toNat ≤ hi := by
  simpa [Utf8.isCont] using h

theorem u8_of_toNat (c : UInt8) (n : Nat) (hn : n < 256) (h : c.toNat = n) : c = UInt8.ofNat n := by
  apply UInt8.toNat_inj.1
  rw [h, UInt8.toNat_ofNat', Nat.mod_eq_of_lt hn]

end Restli.Json

namespace Restli.Utf8

/-- `EncodeRune` on a Unicode scalar value: nothing is replaced by U+FFFD -/
theorem encodeRune_scalar (r : Nat) (h : r ≤ 0x10FFFF) (hs : r < 0xD800 ∨ 0xDFFF < r) :
    encodeRune r =
      if r < 0x80 then [UInt8.ofNat r]
      else if r < 0x800 then [UInt8.ofNat (0xC0 + r / 64), UInt8.ofNat (0x80 + r % 64)]
      else if r < 0x10000 then
        [UInt8.ofNat (0xE0 + r / 4096), UInt8.ofNat (0x80 + (r / 64) % 64), UInt8.ofNat (0x80 + r % 64)]
      else
        [UInt8.ofNat (0xF0 + r / 262144), UInt8.ofNat (0x80 + (r / 4096) % 64),
         UInt8.ofNat (0x80 + (r / 64) % 64), UInt8.ofNat (0x80 + r % 64)] := by
  have : (decide (r > 0x10FFFF) || (decide (0xD800 ≤ r) && decide (r ≤ 0xDFFF))) = false := by
    simp only [Bool.or_eq_false_iff, Bool.and_eq_false_iff, decide_eq_false_iff_not]; omega
  simp only [encodeRune, this, Bool.false_eq_true, ↓reduceIte]

theorem decodeRune_ascii (c : UInt8) (rest : Bytes) (h : c.toNat < 0x80) : decodeRune (c :: rest) = (c.toNat, 1) := by
  unfold decodeRune
  exact if_pos h

/-- the range `DecodeRune` allows the second byte depends on the lead byte `x`: narrower below for
`a` (no overlong form), narrower above for `b` (no surrogate, nothing beyond U+10FFFF) -/
theorem secondByte_range {x a b lo hi : Nat} {y : UInt8} (hlo : 0x80 ≤ lo) (hhi : hi ≤ 0xBF)
    (h : isCont (if x == a then lo else 0x80) (if x == b then hi else 0xBF) y = true) :
    (0x80 ≤ y.toNat ∧ y.toNat ≤ 0xBF) ∧ (x = a → lo ≤ y.toNat) ∧ (x = b → y.toNat ≤ hi) := by
  obtain ⟨h1, h2⟩ := Json.isCont_ge _ _ _ h
  simp only [beq_iff_eq] at h1 h2
  refine ⟨⟨?_, ?_⟩, fun e => by rwa [if_pos e] at h1, fun e => by rwa [if_pos e] at h2⟩
  · split at h1
    · exact Nat.le_trans hlo h1
    · exact h1
  · split at h2
    · exact Nat.le_trans h2 hhi
    · exact h2

/-! `encodeRune` on a rune given by its base-64 digits: the lead byte carries the top digit, each
continuation byte one further digit. -/

theorem div_mod_64 (q d : Nat) (hd : d < 64) : (q * 64 + d) / 64 = q ∧ (q * 64 + d) % 64 = d := by
  rw [Nat.mul_comm, Nat.mul_add_div (by decide), Nat.mul_add_mod, Nat.div_eq_of_lt hd, Nat.mod_eq_of_lt hd]
  exact ⟨rfl, rfl⟩

theorem digits_3 (a b c r : Nat) (hb : b < 64) (hc : c < 64) (hr : r = a * 4096 + b * 64 + c) :
    r / 4096 = a ∧ r / 64 % 64 = b ∧ r % 64 = c := by
  rw [hr, show a * 4096 + b * 64 + c = (a * 64 + b) * 64 + c by omega]
  have h1 := div_mod_64 (a * 64 + b) c hc
  have h2 := div_mod_64 a b hb
  refine ⟨?_, ?_, h1.2⟩
  · rw [show 4096 = 64 * 64 from rfl, ← Nat.div_div_eq_div_mul, h1.1, h2.1]
  · rw [h1.1, h2.2]

theorem digits_4 (a b c d r : Nat) (hb : b < 64) (hc : c < 64) (hd : d < 64)
    (hr : r = a * 262144 + b * 4096 + c * 64 + d) :
    r / 262144 = a ∧ r / 4096 % 64 = b ∧ r / 64 % 64 = c ∧ r % 64 = d := by
  rw [hr, show a * 262144 + b * 4096 + c * 64 + d = (a * 4096 + b * 64 + c) * 64 + d by omega]
  have h1 := div_mod_64 (a * 4096 + b * 64 + c) d hd
  have h2 := digits_3 a b c _ hb hc rfl
  refine ⟨?_, ?_, ?_, h1.2⟩
  · rw [show 262144 = 64 * 4096 from rfl, ← Nat.div_div_eq_div_mul, h1.1, h2.1]
  · rw [show 4096 = 64 * 64 from rfl, ← Nat.div_div_eq_div_mul, h1.1, h2.2.1]
  · rw [h1.1, h2.2.2]

theorem encodeRune_two (a b : Nat) (h2 : 2 ≤ a) (ha : a < 32) (hb : b < 64) :
    encodeRune (a * 64 + b) = [UInt8.ofNat (0xC0 + a), UInt8.ofNat (0x80 + b)] := by
  have rng : ¬ a * 64 + b < 0x80 ∧ a * 64 + b < 0x800 := by omega
  have d := div_mod_64 a b hb
  rw [encodeRune_scalar _ (Nat.le_trans (Nat.le_of_lt rng.2) (by decide)) (Or.inl (Nat.lt_trans rng.2 (by decide))),
    if_neg rng.1, if_pos rng.2, d.1, d.2]

/-- three bytes: no overlong form (`a = 0` needs `b ≥ 32`), no surrogate (`a = 13` needs `b < 32`) -/
theorem encodeRune_three (a b c : Nat) (ha : a < 16) (hb : b < 64) (hc : c < 64) (h0 : a = 0 → 32 ≤ b)
    (h13 : a = 13 → b < 32) :
    encodeRune (a * 4096 + b * 64 + c) = [UInt8.ofNat (0xE0 + a), UInt8.ofNat (0x80 + b), UInt8.ofNat (0x80 + c)] := by
  generalize hr : a * 4096 + b * 64 + c = r
  have rng : ¬ r < 0x800 ∧ r < 0x10000 ∧ (r < 0xD800 ∨ 0xDFFF < r) := by omega
  have d := digits_3 a b c r hb hc hr.symm
  rw [encodeRune_scalar r (Nat.le_trans (Nat.le_of_lt rng.2.1) (by decide)) rng.2.2,
    if_neg (fun h => rng.1 (Nat.lt_trans h (by decide))), if_neg rng.1, if_pos rng.2.1, d.1, d.2.1, d.2.2]

/-- four bytes: no overlong form (`a = 0` needs `b ≥ 16`), nothing above U+10FFFF (`a = 4` needs `b < 16`) -/
theorem encodeRune_four (a b c d : Nat) (ha : a ≤ 4) (hb : b < 64) (hc : c < 64) (hd : d < 64) (h0 : a = 0 → 16 ≤ b)
    (h4 : a = 4 → b < 16) :
    encodeRune (a * 262144 + b * 4096 + c * 64 + d) =
      [UInt8.ofNat (0xF0 + a), UInt8.ofNat (0x80 + b), UInt8.ofNat (0x80 + c), UInt8.ofNat (0x80 + d)] := by
  generalize hr : a * 262144 + b * 4096 + c * 64 + d = r
  have rng : ¬ r < 0x10000 ∧ r ≤ 0x10FFFF := by omega
  have g := digits_4 a b c d r hb hc hd hr.symm
  rw [encodeRune_scalar r rng.2 (Or.inr (Nat.lt_of_lt_of_le (by decide) (Nat.le_of_not_lt rng.1))),
    if_neg (fun h => rng.1 (Nat.lt_trans h (by decide))), if_neg (fun h => rng.1 (Nat.lt_trans h (by decide))),
    if_neg rng.1, g.1, g.2.1, g.2.2.1, g.2.2.2]

/-- **decoding is inverted by encoding**: whenever `DecodeRune` does not report an error on a
sequence that starts with a non-ASCII byte, the `w` bytes it consumed are `EncodeRune` of the rune
it returned — two to four bytes, none of them ASCII -/
theorem encodeRune_decodeRune (c : UInt8) (rest : Bytes) (r w : Nat) (hc : ¬ c.toNat < 0x80)
    (h : decodeRune (c :: rest) = (r, w)) (hv : ¬ (r = runeError ∧ w ≤ 1)) :
    ∃ tail, c :: rest = encodeRune r ++ tail ∧ w = (encodeRune r).length ∧ 2 ≤ w ∧
      ∀ x ∈ encodeRune r, 0x80 ≤ x.toNat := by
  have bad : (runeError, 1) = (r, w) → False :=
    fun e => hv ⟨(Prod.mk.inj e).1.symm, by rw [← (Prod.mk.inj e).2]; omega⟩
  unfold decodeRune at h
  simp only [hc, ↓reduceIte, Bool.and_eq_true, decide_eq_true_eq] at h
  clear hv
  have hc := Nat.le_of_not_lt hc
  -- the digit `b < 64` of a continuation byte `y = 0x80 + b`
  have digit : ∀ y : UInt8, 0x80 ≤ y.toNat ∧ y.toNat ≤ 0xBF → ∃ b, b < 64 ∧ y.toNat = 0x80 + b :=
    fun y hy => ⟨y.toNat - 0x80, by omega, (Nat.add_sub_of_le hy.1).symm⟩
  by_cases h2 : 0xC2 ≤ c.toNat ∧ c.toNat ≤ 0xDF
  · rw [if_pos h2] at h
    rcases rest with _ | ⟨b1, tail⟩
    · exact (bad h).elim
    by_cases k1 : isCont 0x80 0xBF b1 = true
    · obtain ⟨a, ea⟩ := Nat.exists_eq_add_of_le (Nat.le_trans (by decide : 0xC0 ≤ 0xC2) h2.1)
      have y1 := Json.isCont_ge _ _ _ k1
      obtain ⟨b, hb, eb⟩ := digit b1 y1
      simp only [k1, ↓reduceIte, ea, eb, Nat.add_sub_cancel_left] at h
      obtain ⟨rfl, rfl⟩ := Prod.mk.inj h
      rw [encodeRune_two a b (by omega) (by omega) hb, ← ea, ← eb, UInt8.ofNat_toNat, UInt8.ofNat_toNat]
      refine ⟨tail, rfl, rfl, Nat.le_refl _, ?_⟩
      simp only [List.mem_cons, List.not_mem_nil, or_false, forall_eq_or_imp, forall_eq]
      exact ⟨hc, y1.1⟩
    · simp only [k1] at h; exact (bad h).elim
  rw [if_neg h2] at h
  clear h2
  by_cases h3 : 0xE0 ≤ c.toNat ∧ c.toNat ≤ 0xEF
  · rw [if_pos h3] at h
    rcases rest with _ | ⟨b1, _ | ⟨b2, tail⟩⟩
    · exact (bad h).elim
    · exact (bad h).elim
    by_cases k : isCont (if c.toNat == 0xE0 then 0xA0 else 0x80) (if c.toNat == 0xED then 0x9F else 0xBF) b1 = true ∧
        isCont 0x80 0xBF b2 = true
    · obtain ⟨a, ea⟩ := Nat.exists_eq_add_of_le h3.1
      have y1 := secondByte_range (by decide) (by decide) k.1
      have y2 := Json.isCont_ge _ _ _ k.2
      obtain ⟨b, hb, eb⟩ := digit b1 y1.1
      obtain ⟨d, hd, ed⟩ := digit b2 y2
      simp only [k, and_self, ↓reduceIte] at h
      simp only [ea, eb, ed, Nat.add_sub_cancel_left] at h
      obtain ⟨rfl, rfl⟩ := Prod.mk.inj h
      rw [encodeRune_three a b d (by omega) hb hd (by omega) (by omega), ← ea, ← eb, ← ed, UInt8.ofNat_toNat,
        UInt8.ofNat_toNat, UInt8.ofNat_toNat]
      refine ⟨tail, rfl, rfl, by decide, ?_⟩
      simp only [List.mem_cons, List.not_mem_nil, or_false, forall_eq_or_imp, forall_eq]
      exact ⟨hc, y1.1.1, y2.1⟩
    · simp only [k, ↓reduceIte] at h; exact (bad h).elim
  rw [if_neg h3] at h
  clear h3
  by_cases h4 : 0xF0 ≤ c.toNat ∧ c.toNat ≤ 0xF4
  · rw [if_pos h4] at h
    rcases rest with _ | ⟨b1, _ | ⟨b2, _ | ⟨b3, tail⟩⟩⟩
    · exact (bad h).elim
    · exact (bad h).elim
    · exact (bad h).elim
    by_cases k : (isCont (if c.toNat == 0xF0 then 0x90 else 0x80) (if c.toNat == 0xF4 then 0x8F else 0xBF) b1 = true ∧
        isCont 0x80 0xBF b2 = true) ∧ isCont 0x80 0xBF b3 = true
    · obtain ⟨a, ea⟩ := Nat.exists_eq_add_of_le h4.1
      have y1 := secondByte_range (by decide) (by decide) k.1.1
      have y2 := Json.isCont_ge _ _ _ k.1.2
      have y3 := Json.isCont_ge _ _ _ k.2
      obtain ⟨b, hb, eb⟩ := digit b1 y1.1
      obtain ⟨d, hd, ed⟩ := digit b2 y2
      obtain ⟨e, he, ee⟩ := digit b3 y3
      simp only [k, and_self, ↓reduceIte] at h
      simp only [ea, eb, ed, ee, Nat.add_sub_cancel_left] at h
      obtain ⟨rfl, rfl⟩ := Prod.mk.inj h
      rw [encodeRune_four a b d e (by omega) hb hd he (by omega) (by omega), ← ea, ← eb, ← ed, ← ee,
        UInt8.ofNat_toNat, UInt8.ofNat_toNat, UInt8.ofNat_toNat, UInt8.ofNat_toNat]
      refine ⟨tail, rfl, rfl, by decide, ?_⟩
      simp only [List.mem_cons, List.not_mem_nil, or_false, forall_eq_or_imp, forall_eq]
      exact ⟨hc, y1.1.1, y2.1, y3.1⟩
    · simp only [k, ↓reduceIte] at h; exact (bad h).elim
  rw [if_neg h4] at h
  exact (bad h).elim

theorem toNat_ofNat_lt (n : Nat) (h : n < 256) : (UInt8.ofNat n).toNat = n := by
  rw [UInt8.toNat_ofNat']; exact Nat.mod_eq_of_lt h

/-- …and encoding is inverted by decoding; below U+0800 is all that the Latin-1 mapping of byte
strings needs -/
theorem decodeRune_encodeRune (r : Nat) (h : r < 0x800) (rest : Bytes) :
    decodeRune (encodeRune r ++ rest) = (r, (encodeRune r).length) := by
  by_cases hlo : r < 0x80
  · rw [encodeRune_scalar r (by omega) (by omega), if_pos hlo]
    have := decodeRune_ascii (UInt8.ofNat r) rest (by rw [toNat_ofNat_lt r (by omega)]; exact hlo)
    rwa [toNat_ofNat_lt r (by omega)] at this
  · have ha : 2 ≤ r / 64 ∧ r / 64 < 32 := by omega
    have hb : r % 64 < 64 := Nat.mod_lt _ (by decide)
    rw [← Nat.div_add_mod' r 64]
    generalize r / 64 = a at ha
    generalize r % 64 = b at hb
    have hx : ¬ 0xC0 + a < 0x80 ∧ 0xC2 ≤ 0xC0 + a ∧ 0xC0 + a ≤ 0xDF := by omega
    have hy : 0x80 + b ≤ 0xBF := by omega
    rw [encodeRune_two a b ha.1 ha.2 hb, List.cons_append, List.cons_append, List.nil_append]
    unfold decodeRune
    simp only [isCont, toNat_ofNat_lt (0xC0 + a) (by omega), toNat_ofNat_lt (0x80 + b) (by omega), hx, hy,
      Nat.add_sub_cancel_left, Nat.le_add_right, decide_true, Bool.and_self, ↓reduceIte, List.length_cons, List.length_nil]

end Restli.Utf8
