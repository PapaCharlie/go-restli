import Restli.Proofs.JsonString
import Restli.Proofs.JsonRoundTrip
import Restli.Proofs.Digits
/-! The JSON writers against the strict parser, for whole documents. A `Layout` writes the compact
writer's tokens with nothing but whitespace between them; the text of any layout parses to exactly
the tree `treeOf jsonEnc d` the tree-level round trip is about (`parse_layout`). The compact writer
is the layout without whitespace (`parse_renderJson`); the pretty writer is in `JsonPretty`. -/
namespace Restli.Codec
open Json (JVal parseValue parseMembers parseElements parseNumber)

/-- what may follow a value inside a document (or nothing, at the top) -/
def delimStart : Bytes → Bool
  | [] => true
  | c :: _ => c == 44 || c == 125 || c == 93

/-- a non-digit, non-'.', non-exponent byte (or nothing) follows the number -/
def numEnd : Bytes → Bool
  | [] => true
  | c :: _ => !Json.isDigit c && c != 46 && c != 101 && c != 69

theorem numEnd_of_delim (rest : Bytes) (h : delimStart rest = true) : numEnd rest = true := by
  cases rest with
  | nil => rfl
  | cons c r =>
    simp only [delimStart, Bool.or_eq_true, beq_iff_eq] at h
    rcases h with (rfl | rfl) | rfl <;> rfl

theorem isDigit_same (c : UInt8) : Json.isDigit c = Strconv.isDigit c := rfl

theorem numEnd_cons (c : UInt8) (r : Bytes) (h : numEnd (c :: r) = true) :
    Json.isDigit c = false ∧ c ≠ 46 ∧ (c == 101) = false ∧ (c == 69) = false := by
  simp only [numEnd, Bool.and_eq_true, Bool.not_eq_eq_eq_not, Bool.not_true, bne_iff_ne, ← beq_eq_false_iff_ne] at h
  exact ⟨h.1.1.1, beq_eq_false_iff_ne.1 h.1.1.2, h.1.2, h.2⟩

theorem takeDigits_append : ∀ (ds rest : Bytes), (∀ c ∈ ds, Json.isDigit c = true) → numEnd rest = true →
    Json.takeDigits (ds ++ rest) = (ds, rest) := by
  intro ds rest hd hr
  induction ds with
  | nil =>
    cases rest with
    | nil => rfl
    | cons c r => simp only [List.nil_append, Json.takeDigits, (numEnd_cons c r hr).1, Bool.false_eq_true, ↓reduceIte]
  | cons d ds ih =>
    simp only [List.cons_append, Json.takeDigits, hd d List.mem_cons_self, ↓reduceIte,
      ih (fun c hc => hd c (List.mem_cons_of_mem _ hc))]

theorem numFrac_end (rest : Bytes) (hr : numEnd rest = true) : Json.numFrac rest = some ([], rest) := by
  cases rest with
  | nil => rfl
  | cons c r =>
    unfold Json.numFrac
    split
    · next r2 heq => exact absurd (List.cons.inj heq).1 (numEnd_cons c r hr).2.1
    · rfl

theorem numExp_end (rest : Bytes) (hr : numEnd rest = true) : Json.numExp rest = some ([], rest) := by
  cases rest with
  | nil => rfl
  | cons c r =>
    obtain ⟨_, _, e101, e69⟩ := numEnd_cons c r hr
    simp only [Json.numExp, e101, e69, Bool.or_self, Bool.false_eq_true, ↓reduceIte]

/-- an optional minus sign, digits without a superfluous leading zero, then something a number
cannot continue with: one number token -/
theorem parseNumber_digits (sign : Bytes) (d : UInt8) (dr rest : Bytes) (hs : sign = [] ∨ sign = [45])
    (hds : ∀ c ∈ d :: dr, Json.isDigit c = true) (hz : d = 48 → dr = []) (hr : numEnd rest = true) :
    parseNumber (sign ++ (d :: dr) ++ rest) = some (sign ++ (d :: dr), rest) := by
  have hdd : Json.isDigit d = true := hds d List.mem_cons_self
  have hsign : Json.numSign (sign ++ (d :: dr) ++ rest) = (sign, d :: (dr ++ rest)) := by
    rcases hs with rfl | rfl
    · rw [List.nil_append, List.cons_append, Json.numSign]
      intro r h
      rw [(List.cons.inj h).1] at hdd
      exact absurd hdd (by decide)
    · rfl
  have hint : Json.numInt (d :: (dr ++ rest)) = some (d :: dr, rest) := by
    simp only [Json.numInt, hdd, Bool.not_true, Bool.false_eq_true, ↓reduceIte]
    by_cases h48 : d = 48
    · rw [hz h48, h48]; rfl
    · rw [if_neg (fun h => h48 (beq_iff_eq.1 h)), ← List.cons_append, takeDigits_append (d :: dr) rest hds hr]
  simp only [parseNumber, hsign, hint, numFrac_end rest hr, numExp_end rest hr, List.append_nil]

theorem parseNumber_formatInt (v : Int) (rest : Bytes) (hr : numEnd rest = true) :
    parseNumber (Strconv.formatInt v ++ rest) = some (Strconv.formatInt v, rest) := by
  have hds := Strconv.digitsOfNat_all_digits v.natAbs
  obtain ⟨d, dr, e, hz⟩ : ∃ d dr, Strconv.digitsOfNat v.natAbs = d :: dr ∧ (d = 48 → dr = []) := by
    by_cases h0 : v.natAbs = 0
    · rw [h0, Strconv.digitsOfNat, dif_pos (by decide)]; exact ⟨48, [], rfl, fun _ => rfl⟩
    · obtain ⟨c, cs, hc, hne⟩ := Strconv.digitsOfNat_head_nonzero v.natAbs (Nat.pos_of_ne_zero h0)
      exact ⟨c, cs, hc, fun h => absurd h hne⟩
  rw [e] at hds
  have key := fun sign hs => parseNumber_digits sign d dr rest hs (fun c hc => (isDigit_same c).trans (hds c hc)) hz hr
  rw [Strconv.formatInt, e]
  by_cases hv : v < 0
  · rw [if_pos hv]; exact key [45] (Or.inr rfl)
  · rw [if_neg hv]; exact key [] (Or.inl rfl)

theorem formatInt_head (v : Int) : ∃ c cs, Strconv.formatInt v = c :: cs ∧ (Json.isDigit c = true ∨ c = 45) := by
  have := Strconv.formatInt_clean v
  cases hfi : Strconv.formatInt v with
  | nil => exact absurd hfi this.1
  | cons c cs =>
    exact ⟨c, cs, rfl, (this.2 c (by rw [hfi]; exact List.mem_cons_self)).imp_left (isDigit_same c).trans⟩

/-- what is assumed of `strconv`'s float text so that it is one JSON number token: the strict
number grammar accepts exactly it and stops (an assumption about `formatFloat64`'s shape, compared
with Go's output on every float of every run). The two premises exclude NaN (`cls` 2) and the
infinities (`cls` 1), which are written as strings. -/
structure NumLaws : Prop where
  float_tok : ∀ b rest, ((Strconv.decodeBits Strconv.f64 b).cls == 2) = false →
    ((Strconv.decodeBits Strconv.f64 b).cls == 1) = false → numEnd rest = true →
    parseNumber (Strconv.formatFloat64 b ++ rest) = some (Strconv.formatFloat64 b, rest)
  float_head : ∀ b, ((Strconv.decodeBits Strconv.f64 b).cls == 2) = false →
    ((Strconv.decodeBits Strconv.f64 b).cls == 1) = false →
    ∃ c cs, Strconv.formatFloat64 b = c :: cs ∧ (Json.isDigit c = true ∨ c = 45)

def WsOnly (w : Bytes) : Prop := ∀ c ∈ w, Json.isWs c = true

theorem wsOnly_nil : WsOnly [] := fun _ h => nomatch h

theorem skipWs_nonws (c : UInt8) (r : Bytes) (h : Json.isWs c = false) : Json.skipWs (c :: r) = c :: r := by
  simp only [Json.skipWs, h, Bool.false_eq_true, ↓reduceIte]

theorem skipWs_ws : ∀ (w x : Bytes), WsOnly w → Json.skipWs (w ++ x) = Json.skipWs x := by
  intro w x h
  induction w with
  | nil => rfl
  | cons c w ih =>
    simp only [List.cons_append, Json.skipWs, h c List.mem_cons_self, ↓reduceIte]
    exact ih (fun c hc => h c (List.mem_cons_of_mem _ hc))

theorem parseValue_ws (fuel : Nat) {w x : Bytes} (h : WsOnly w) : parseValue fuel (w ++ x) = parseValue fuel x := by
  cases fuel with
  | zero => rw [parseValue, parseValue]
  | succ f => rw [parseValue, parseValue, skipWs_ws w x h]

theorem parseMembers_ws (fuel : Nat) {w x : Bytes} (h : WsOnly w) : parseMembers fuel (w ++ x) = parseMembers fuel x := by
  cases fuel with
  | zero => rw [parseMembers, parseMembers]
  | succ f => rw [parseMembers, parseMembers, skipWs_ws w x h]

theorem parseElements_ws (fuel : Nat) {w x : Bytes} (h : WsOnly w) : parseElements fuel (w ++ x) = parseElements fuel x := by
  cases fuel with
  | zero => rw [parseElements, parseElements]
  | succ f => rw [parseElements, parseElements, parseValue_ws f h]

theorem numEnd_ws (w : Bytes) (c : UInt8) (x : Bytes) (hw : WsOnly w) (hc : numEnd (c :: x) = true) :
    numEnd (w ++ c :: x) = true := by
  cases w with
  | nil => exact hc
  | cons d w =>
    have := hw d List.mem_cons_self
    simp only [Json.isWs, Bool.or_eq_true, beq_iff_eq] at this
    rcases this with ((rfl | rfl) | rfl) | rfl <;> rfl

theorem skipWs_delim (c : UInt8) (r : Bytes) (h : c = 44 ∨ c = 125 ∨ c = 93 ∨ c = 58 ∨ c = 34) :
    Json.skipWs (c :: r) = c :: r := by
  rcases h with rfl | rfl | rfl | rfl | rfl <;> rfl

/-- a token that starts with a digit or `-` is dispatched to the number grammar: such a byte is
none of whitespace, `"`, `{`, `[`, `t`, `f`, `n` -/
theorem parseValue_number (fuel : Nat) {t rest : Bytes}
    (ht : ∃ c cs, t = c :: cs ∧ (Json.isDigit c = true ∨ c = 45)) (h : parseNumber (t ++ rest) = some (t, rest)) :
    parseValue (fuel + 1) (t ++ rest) = some (.num t, rest) := by
  obtain ⟨c, cs, rfl, hc⟩ := ht
  have hn : (48 ≤ c.toNat ∧ c.toNat ≤ 57) ∨ c.toNat = 45 := by
    rcases hc with h | rfl
    · simp only [Json.isDigit, Bool.and_eq_true, decide_eq_true_eq, UInt8.le_iff_toNat_le] at h; exact Or.inl h
    · exact Or.inr rfl
  -- every byte the dispatch compares with (whitespace, `" { [ t f n`) lies outside `-`..`9`
  have ne : ∀ k : UInt8, (k.toNat < 45 ∨ 57 < k.toNat) → (c == k) = false := fun k hk =>
    beq_eq_false_iff_ne.2 (by rintro rfl; omega)
  have lit : ∀ k l, (c == k) = false → List.isPrefixOf (k :: l) (c :: (cs ++ rest)) = false := fun k l hk => by
    rw [List.isPrefixOf, Bool.beq_comm, hk]; rfl
  rw [List.cons_append] at h ⊢
  simp only [parseValue, Json.skipWs, Json.isWs, ne 32 (by decide), ne 9 (by decide), ne 10 (by decide),
    ne 13 (by decide), ne 34 (by decide), ne 123 (by decide), ne 91 (by decide), Bool.or_self, Bool.false_eq_true,
    ↓reduceIte, Json.litTrue, Json.litFalse, Json.litNull, lit _ _ (ne 116 (by decide)), lit _ _ (ne 102 (by decide)),
    lit _ _ (ne 110 (by decide)), h, Option.map_some]

theorem skipWs_split : ∀ s : Bytes, ∃ w, WsOnly w ∧ s = w ++ Json.skipWs s := by
  intro s
  induction s with
  | nil => exact ⟨[], wsOnly_nil, rfl⟩
  | cons c s ih =>
    by_cases hc : Json.isWs c = true
    · obtain ⟨w, hw, e⟩ := ih
      refine ⟨c :: w, fun d hd => (List.mem_cons.1 hd).elim (fun h => h ▸ hc) (hw d), ?_⟩
      rw [Json.skipWs, if_pos hc, List.cons_append, ← e]
    · exact ⟨[], wsOnly_nil, by rw [Json.skipWs, if_neg hc]; rfl⟩

/-- an object whose members parse: `{` is not followed by `}`, because `}` is no member -/
theorem parseValue_obj {f : Nat} {cs : Bytes} {kvs : List (Bytes × JVal)} {rest : Bytes}
    (h : parseMembers f cs = some (kvs, rest)) : parseValue (f + 1) (123 :: cs) = some (.obj kvs, rest) := by
  obtain ⟨w, hw, e⟩ := skipWs_split cs
  rw [e, parseMembers_ws f hw] at h
  simp +decide only [parseValue, Json.skipWs, ↓reduceIte]
  split
  · next r heq => rw [heq] at h; cases f <;> cases h
  · rw [h]; rfl

theorem parseValue_arr {f : Nat} {cs : Bytes} {xs : List JVal} {rest : Bytes}
    (h : parseElements f cs = some (xs, rest)) : parseValue (f + 1) (91 :: cs) = some (.arr xs, rest) := by
  obtain ⟨w, hw, e⟩ := skipWs_split cs
  rw [e, parseElements_ws f hw] at h
  simp +decide only [parseValue, Json.skipWs, ↓reduceIte]
  split
  · next r heq =>
    rw [heq] at h
    cases f with
    | zero => cases h
    | succ f => cases f <;> cases h
  · rw [h]; rfl

/-- one member: the key is read, then the value, then `,` or `}` decides -/
theorem parseMembers_member (fuel : Nat) {a b : Bytes} (ha : WsOnly a) (hb : WsOnly b) (k : Bytes)
    (hk : Utf8.validUtf8 k = true) (tail : Bytes) :
    parseMembers (fuel + 1) (a ++ (Json.jsonString k ++ 58 :: (b ++ tail))) =
      (match parseValue fuel tail with
       | none => none
       | some (v, r3) =>
         match Json.skipWs r3 with
         | 44 :: r4 => (parseMembers fuel r4).map (fun (kvs, r5) => ((k, v) :: kvs, r5))
         | 125 :: r4 => some ([(k, v)], r4)
         | _ => none) := by
  rw [parseMembers_ws _ ha, ← parseValue_ws fuel hb]
  simp +decide only [Json.jsonString, List.cons_append, List.append_assoc, List.nil_append, parseMembers, Json.skipWs,
    ↓reduceIte, Json.parseStrBody_jsonString k _ hk]
  rfl

mutual
/-- every string and key of the document is valid UTF-8 (byte strings are written through the
Latin-1 mapping and need nothing) -/
def DocTextOK : Doc → Prop
  | .str b => Utf8.validUtf8 b = true
  | .obj kvs => DocTextOKKvs kvs
  | .arr xs => DocTextOKItems xs
  | _ => True
def DocTextOKKvs : List (Bytes × Doc) → Prop
  | [] => True
  | (k, v) :: rest => Utf8.validUtf8 k = true ∧ DocTextOK v ∧ DocTextOKKvs rest
def DocTextOKItems : List Doc → Prop
  | [] => True
  | v :: rest => DocTextOK v ∧ DocTextOKItems rest
end

mutual
/-- parser fuel that certainly suffices, whatever the whitespace: one unit per bracket entered and
per member or element passed on the way to the deepest value -/
def jneed : Doc → Nat
  | .obj kvs => 1 + jneedKvs kvs
  | .arr xs => 1 + jneedItems xs
  | _ => 1
def jneedKvs : List (Bytes × Doc) → Nat
  | [] => 0
  | (_, v) :: rest => 1 + max (jneed v) (jneedKvs rest)
def jneedItems : List Doc → Nat
  | [] => 0
  | v :: rest => 1 + max (jneed v) (jneedItems rest)
end

/-- A way of writing documents as JSON text: the compact writer's tokens, and between them
nothing but whitespace. `val n d` is the text of `d` at nesting level `n`; `kvs n` and `items n`
write what stands between the brackets of an object / array at level `n`. -/
structure Layout where
  val : Nat → Doc → Bytes
  kvs : Nat → List (Bytes × Doc) → Bytes
  items : Nat → List Doc → Bytes
  leaf : ∀ n d t, jsonLeaf d = some t → val n d = t
  obj_nil : ∀ n, val n (.obj []) = [123, 125]
  arr_nil : ∀ n, val n (.arr []) = [91, 93]
  obj_cons : ∀ n kv more, ∃ a b, WsOnly a ∧ WsOnly b ∧
    val n (.obj (kv :: more)) = 123 :: (a ++ (kvs n (kv :: more) ++ (b ++ [125])))
  arr_cons : ∀ n x more, ∃ a b, WsOnly a ∧ WsOnly b ∧
    val n (.arr (x :: more)) = 91 :: (a ++ (items n (x :: more) ++ (b ++ [93])))
  kvs_one : ∀ n k v, ∃ a b, WsOnly a ∧ WsOnly b ∧
    kvs n [(k, v)] = a ++ (Json.jsonString k ++ 58 :: (b ++ val (n + 1) v))
  kvs_cons : ∀ n k v kv2 more, ∃ a b c, WsOnly a ∧ WsOnly b ∧ WsOnly c ∧
    kvs n ((k, v) :: kv2 :: more) =
      a ++ (Json.jsonString k ++ 58 :: (b ++ (val (n + 1) v ++ 44 :: (c ++ kvs n (kv2 :: more)))))
  items_one : ∀ n v, items n [v] = val (n + 1) v
  items_cons : ∀ n v v2 more, ∃ c, WsOnly c ∧
    items n (v :: v2 :: more) = val (n + 1) v ++ 44 :: (c ++ items n (v2 :: more))

theorem one_le_jneed (d : Doc) : 1 ≤ jneed d := by
  cases d with
  | obj kvs => exact Nat.le_add_right 1 _
  | arr xs => exact Nat.le_add_right 1 _
  | _ => exact Nat.le_refl 1

theorem Layout.parse_leaf (L : Layout) (N : NumLaws) {d : Doc} {t : Bytes} (ht : jsonLeaf d = some t) (hok : DocTextOK d)
    (n fuel : Nat) (rest : Bytes) (hf : jneed d ≤ fuel) (hr : numEnd rest = true) :
    parseValue fuel (L.val n d ++ rest) = some (treeOf jsonEnc d, rest) := by
  obtain ⟨f, rfl⟩ := Nat.exists_eq_add_of_le' (Nat.le_trans (one_le_jneed d) hf)
  rw [L.leaf n d t ht]
  cases d <;> cases ht
  case int v => exact parseValue_number f (formatInt_head v) (parseNumber_formatInt v rest hr)
  case f64 b =>
    rw [show treeOf jsonEnc (.f64 b) = jsonTreeLeaf (.f64 b) from rfl]
    rcases jsonFloat_cases b with ⟨e, et, hv⟩ | ⟨e, et, ef, h2, h1⟩
    · rw [e, et]; exact Json.parseValue_jsonString _ rest f hv
    · rw [e, et, ef]; exact parseValue_number f (N.float_head b h2 h1) (N.float_tok b rest h2 h1 hr)
  case bool b => cases b <;> rfl
  case str b => exact Json.parseValue_jsonString b rest f hok
  case bytes b => exact Json.parseValue_jsonString (latin1 b) rest f (valid_latin1 b)

theorem fuel_succ {x fuel : Nat} (h : 1 + x ≤ fuel) : ∃ f, fuel = f + 1 ∧ x ≤ f := by
  obtain ⟨f, rfl⟩ := Nat.exists_eq_add_of_le' (Nat.le_trans (Nat.le_add_right 1 x) h)
  rw [Nat.add_comm 1 x] at h
  exact ⟨f, rfl, Nat.le_of_succ_le_succ h⟩

/-- **the strict parser reads the text of any layout as the document's tree.** Three statements proved
together: a value followed by `rest` (if the value is a number, `rest` must not continue it: `numEnd`);
the members of an object followed by whitespace and `}`; the elements of an array followed by
whitespace and `]`. In each the parser stops exactly at `rest`. -/
theorem parse_layout (L : Layout) (N : NumLaws) :
    (∀ d, DocTextOK d → ∀ (n fuel : Nat) (rest : Bytes), jneed d ≤ fuel → numEnd rest = true →
      parseValue fuel (L.val n d ++ rest) = some (treeOf jsonEnc d, rest)) ∧
    (∀ kvs, kvs ≠ [] → DocTextOKKvs kvs → ∀ (n fuel : Nat) (w rest : Bytes), WsOnly w → jneedKvs kvs ≤ fuel →
      parseMembers fuel (L.kvs n kvs ++ (w ++ 125 :: rest)) = some (treeOfKvs jsonEnc kvs, rest)) ∧
    (∀ xs, xs ≠ [] → DocTextOKItems xs → ∀ (n fuel : Nat) (w rest : Bytes), WsOnly w → jneedItems xs ≤ fuel →
      parseElements fuel (L.items n xs ++ (w ++ 93 :: rest)) = some (treeOfItems jsonEnc xs, rest)) :=
  Doc.induct3
    (fun v => L.parse_leaf N rfl)
    (fun b => L.parse_leaf N rfl)
    (fun b => L.parse_leaf N rfl)
    (fun b => L.parse_leaf N rfl)
    (fun b => L.parse_leaf N rfl)
    (fun kvs ih hok n fuel rest hf0 _ => by
      obtain ⟨f, rfl, hf⟩ := fuel_succ hf0
      cases kvs with
      | nil => rw [L.obj_nil]; rfl
      | cons kv more =>
        obtain ⟨a, b, ha, hb, e⟩ := L.obj_cons n kv more
        rw [e, List.cons_append, List.append_assoc, List.append_assoc, List.append_assoc, List.singleton_append]
        exact parseValue_obj (by rw [parseMembers_ws f ha]; exact ih nofun hok n f b rest hb hf))
    (fun xs ih hok n fuel rest hf0 _ => by
      obtain ⟨f, rfl, hf⟩ := fuel_succ hf0
      cases xs with
      | nil => rw [L.arr_nil]; rfl
      | cons x more =>
        obtain ⟨a, b, ha, hb, e⟩ := L.arr_cons n x more
        rw [e, List.cons_append, List.append_assoc, List.append_assoc, List.append_assoc, List.singleton_append]
        exact parseValue_arr (by rw [parseElements_ws f ha]; exact ih nofun hok n f b rest hb hf))
    (fun h => absurd rfl h)
    (fun k v more ihv ih _ hok n fuel w rest hw hf0 => by
      obtain ⟨f, rfl, hf⟩ := fuel_succ hf0
      cases more with
      | nil =>
        obtain ⟨a, b, ha, hb, e⟩ := L.kvs_one n k v
        have hv := ihv hok.2.1 (n + 1) f (w ++ 125 :: rest) (Nat.le_trans (Nat.le_max_left _ _) hf)
          (numEnd_ws w 125 rest hw rfl)
        rw [e, List.append_assoc, List.append_assoc, List.cons_append, List.append_assoc,
          parseMembers_member f ha hb k hok.1, hv]
        simp only [skipWs_ws w _ hw, skipWs_nonws 125 rest rfl]
        rfl
      | cons kv2 more =>
        obtain ⟨a, b, c, ha, hb, hc, e⟩ := L.kvs_cons n k v kv2 more
        have hv := ihv hok.2.1 (n + 1) f (44 :: (c ++ (L.kvs n (kv2 :: more) ++ (w ++ 125 :: rest))))
          (Nat.le_trans (Nat.le_max_left _ _) hf) rfl
        rw [e, List.append_assoc, List.append_assoc, List.cons_append, List.append_assoc, List.append_assoc,
          List.cons_append, List.append_assoc, parseMembers_member f ha hb k hok.1, hv]
        simp only [skipWs_nonws 44 _ rfl, parseMembers_ws f hc,
          ih nofun hok.2.2 n f w rest hw (Nat.le_trans (Nat.le_max_right _ _) hf)]
        rfl)
    (fun h => absurd rfl h)
    (fun v more ihv ih _ hok n fuel w rest hw hf0 => by
      obtain ⟨f, rfl, hf⟩ := fuel_succ hf0
      cases more with
      | nil =>
        have hv := ihv hok.1 (n + 1) f (w ++ 93 :: rest) (Nat.le_trans (Nat.le_max_left _ _) hf)
          (numEnd_ws w 93 rest hw rfl)
        rw [L.items_one, parseElements, hv]
        simp only [skipWs_ws w _ hw, skipWs_nonws 93 rest rfl]
        rfl
      | cons v2 more =>
        obtain ⟨c, hc, e⟩ := L.items_cons n v v2 more
        have hv := ihv hok.1 (n + 1) f (44 :: (c ++ (L.items n (v2 :: more) ++ (w ++ 93 :: rest))))
          (Nat.le_trans (Nat.le_max_left _ _) hf) rfl
        rw [e, List.append_assoc, List.cons_append, List.append_assoc, parseElements, hv]
        simp only [skipWs_nonws 44 _ rfl, parseElements_ws f hc,
          ih nofun hok.2 n f w rest hw (Nat.le_trans (Nat.le_max_right _ _) hf)]
        rfl)

def compactLayout : Layout where
  val _ := renderJson
  kvs _ := renderJsonKvs
  items _ := renderJsonItems
  leaf _ d t h := by cases d <;> cases h <;> rfl
  obj_nil _ := rfl
  arr_nil _ := rfl
  obj_cons _ _ _ := ⟨[], [], wsOnly_nil, wsOnly_nil, rfl⟩
  arr_cons _ _ _ := ⟨[], [], wsOnly_nil, wsOnly_nil, rfl⟩
  kvs_one _ _ _ := ⟨[], [], wsOnly_nil, wsOnly_nil, rfl⟩
  kvs_cons _ k v kv2 more := ⟨[], [], [], wsOnly_nil, wsOnly_nil, wsOnly_nil,
    List.append_assoc (Json.jsonString k) (58 :: renderJson v) (44 :: renderJsonKvs (kv2 :: more))⟩
  items_one _ _ := rfl
  items_cons _ _ _ _ := ⟨[], wsOnly_nil, rfl⟩

theorem parse_renderKvs (N : NumLaws) : (kvs : List (Bytes × Doc)) → kvs ≠ [] → DocTextOKKvs kvs →
    ∀ (fuel : Nat) (rest : Bytes), jneedKvs kvs ≤ fuel →
    parseMembers fuel (renderJsonKvs kvs ++ 125 :: rest) = some (treeOfKvs jsonEnc kvs, rest) :=
  fun kvs hne hok fuel rest hf => (parse_layout compactLayout N).2.1 kvs hne hok 0 fuel [] rest wsOnly_nil hf

theorem parse_renderItems (N : NumLaws) : (xs : List Doc) → xs ≠ [] → DocTextOKItems xs →
    ∀ (fuel : Nat) (rest : Bytes), jneedItems xs ≤ fuel →
    parseElements fuel (renderJsonItems xs ++ 93 :: rest) = some (treeOfItems jsonEnc xs, rest) :=
  fun xs hne hok fuel rest hf => (parse_layout compactLayout N).2.2 xs hne hok 0 fuel [] rest wsOnly_nil hf

theorem renderJson_len_pos (N : NumLaws) (d : Doc) : 1 ≤ (renderJson d).length := by
  have num : ∀ t : Bytes, (∃ c cs, t = c :: cs ∧ (Json.isDigit c = true ∨ c = 45)) → 1 ≤ t.length := by
    rintro t ⟨c, cs, rfl, _⟩; exact Nat.le_add_left 1 _
  cases d with
  | int v => exact num _ (formatInt_head v)
  | f64 b =>
    rw [renderJson]
    rcases jsonFloat_cases b with ⟨e, _⟩ | ⟨e, _, _, h2, h1⟩
    · rw [e]; exact Nat.le_add_left 1 _
    · rw [e]; exact num _ (N.float_head b h2 h1)
  | bool b => cases b <;> decide
  | _ => exact Nat.le_add_left 1 _

theorem jneed_le (N : NumLaws) :
    (∀ d, jneed d ≤ (renderJson d).length) ∧ (∀ kvs, jneedKvs kvs ≤ (renderJsonKvs kvs).length + 1) ∧
    (∀ xs, jneedItems xs ≤ (renderJsonItems xs).length + 1) :=
  Doc.induct3 (fun v => renderJson_len_pos N (.int v)) (fun b => renderJson_len_pos N (.f64 b))
    (fun b => renderJson_len_pos N (.bool b)) (fun b => renderJson_len_pos N (.str b))
    (fun b => renderJson_len_pos N (.bytes b))
    (fun kvs ih => by
      simp only [jneed, renderJson, List.length_cons, List.length_append, List.length_nil]
      omega)
    (fun xs ih => by
      simp only [jneed, renderJson, List.length_cons, List.length_append, List.length_nil]
      omega)
    (Nat.zero_le _)
    (fun k v more ihv ih => by
      cases more with
      | nil =>
        simp only [jneedKvs, renderJsonKvs, List.length_append, List.length_cons]
        omega
      | cons kv2 more =>
        simp only [jneedKvs, renderJsonKvs, List.length_append, List.length_cons] at ih ⊢
        omega)
    (Nat.zero_le _)
    (fun v more ihv ih => by
      cases more with
      | nil =>
        simp only [jneedItems, renderJsonItems]
        omega
      | cons v2 more =>
        simp only [jneedItems, renderJsonItems, List.length_append, List.length_cons] at ih ⊢
        omega)

theorem jneedKvs_le (N : NumLaws) : (kvs : List (Bytes × Doc)) → jneedKvs kvs ≤ (renderJsonKvs kvs).length + 1 :=
  (jneed_le N).2.1

theorem jneedItems_le (N : NumLaws) : (xs : List Doc) → jneedItems xs ≤ (renderJsonItems xs).length + 1 :=
  (jneed_le N).2.2

theorem Layout.parse (L : Layout) (N : NumLaws) (d : Doc) (hok : DocTextOK d) (n : Nat)
    (hlen : jneed d ≤ (L.val n d).length + 1) : Json.parse (L.val n d) = some (treeOf jsonEnc d) := by
  have h := (parse_layout L N).1 d hok n ((L.val n d).length + 1) [] hlen rfl
  rw [List.append_nil] at h
  rw [Json.parse, h]
  rfl

/-- **the compact JSON writer's output parses, under the strict RFC 8259 parser, to exactly the
document tree** the tree-level round trip (`json_roundtrip_tree`) is stated about — for every
document whose strings and keys are valid UTF-8 -/
theorem parse_renderJson (N : NumLaws) (d : Doc) (hok : DocTextOK d) :
    Json.parse (renderJson d) = some (treeOf jsonEnc d) :=
  compactLayout.parse N d hok 0 (Nat.le_succ_of_le ((jneed_le N).1 d))

end Restli.Codec
