import Restli.Proofs.LazyMap
import Restli.Spec.LazyMap
/-! Forward simulation from the lazy-map transition system (`Model/LazyMap.lean`) to the
atomic-object automaton of the plain map with compute-if-absent (`Spec/LazyMap.lean`).

Every implementation step is matched the same way (`sim_post`): a `call` if it is the operation's
first step, then invisible linearizations, then a `ret` if it is the last. -/
namespace Restli.LazyMap
open Restli.LazyMapSpec (State Label Step Steps Status Res)

/-! ## What `c18_impl_refines_spec` is stated with -/

/-- model operation ↦ specification operation (a bijection: `c18_opS_bijective`) -/
def opS : Op → LazyMapSpec.Op
  | .los k fv => .computeIfAbsent k fv
  | .load k => .load k
  | .store k v => .store k v

/-- specification result ↦ model result (injective, `Ret.nil` not in its range:
`c18_retM_injective`) -/
def retM : Res → Ret
  | .unit => .unit
  | .missing => .missing
  | .found v => .val v

/-- a visible event: a call or a response, by thread, with the (specification-level) operation
and the (model-level) result -/
inductive Obs where
  | call (t : Nat) (op : LazyMapSpec.Op)
  | ret (t : Nat) (op : LazyMapSpec.Op) (r : Ret)
deriving DecidableEq, Repr

/-- what an outside observer sees of a model trace event (the ghost `via` is dropped) -/
def Ev.obs : Ev → Obs
  | .call t op => .call t (opS op)
  | .ret t op r _ => .ret t (opS op) r

/-- what an outside observer sees of a specification step (`lin` is invisible) -/
def labObs : Label → Option Obs
  | .call t op => some (.call t op)
  | .lin _ => none
  | .ret t op r => some (.ret t op (retM r))

/-- the implementation's map as the specification sees it: in-flight placeholders read as
"absent" -/
def absMap (s : Sys) : LazyMapSpec.Map := fun k =>
  match s.cell k with
  | .val v => some v
  | _ => none

theorem absMap_val {s : Sys} {k v : Nat} (h : s.cell k = .val v) : absMap s k = some v := by
  simp [absMap, h]

theorem absMap_notVal {s : Sys} {k : Nat} (h : (s.cell k).isVal = false) : absMap s k = none := by
  unfold absMap; cases hc : s.cell k <;> simp [hc] at h ⊢

theorem absMap_setCell_notVal {s : Sys} {k : Nat} {c : Cell} (hk : (s.cell k).isVal = false)
    (hc : c.isVal = false) : absMap (setCell s k c) = absMap s := by
  funext k'
  rcases setCell_cell s k c k' with ⟨e, e'⟩ | ⟨_, e⟩
  · rw [absMap_notVal (by rw [e']; exact hc), e, absMap_notVal hk]
  · unfold absMap; rw [e]

theorem absMap_setCell_val (s : Sys) (k v : Nat) :
    absMap (setCell s k (.val v)) = (absMap s).set k v := by
  funext k'
  by_cases h : k' = k
  · simp [absMap, setCell, LazyMapSpec.Map.set, h]
  · simp [absMap, setCell, LazyMapSpec.Map.set, h]

theorem _root_.Restli.LazyMapSpec.Steps.append {a b c : State} {l₁ l₂ : List Label}
    (h₁ : Steps a l₁ b) (h₂ : Steps b l₂ c) : Steps a (l₁ ++ l₂) c := by
  induction h₁ with
  | nil => exact h₂
  | cons hs _ ih => exact .cons hs (ih h₂)

theorem _root_.Restli.LazyMapSpec.Step.one {a b : State} {l : Label} (h : Step a l b) :
    Steps a [l] b := .cons h (.nil _)

def callSt (a : State) (t : Nat) : State :=
  { a with status := LazyMapSpec.upd a.status t .pending }
def linSt (a : State) (t : Nat) (op : LazyMapSpec.Op) : State :=
  { a with map := (LazyMapSpec.apply a.map op).1,
           status := LazyMapSpec.upd a.status t (.linearized (LazyMapSpec.apply a.map op).2) }
def retSt (a : State) (t : Nat) (rest : List LazyMapSpec.Op) (r : Res) : State :=
  { a with todo := LazyMapSpec.upd a.todo t rest, status := LazyMapSpec.upd a.status t .idle,
           rets := LazyMapSpec.upd a.rets t (a.rets t ++ [r]) }

open LazyMapSpec (upd) in
@[simp] theorem upd_same {α : Type} {f : Nat → α} {t : Nat} {x : α} : upd f t x t = x := if_pos rfl
open LazyMapSpec (upd) in
theorem upd_other {α : Type} {f : Nat → α} {t j : Nat} {x : α} (h : j ≠ t) : upd f t x j = f j :=
  if_neg h

theorem linSt_map {a : State} {i : Nat} {o : LazyMapSpec.Op} {m : LazyMapSpec.Map} {r : Res}
    (h : LazyMapSpec.apply a.map o = (m, r)) : (linSt a i o).map = m := congrArg Prod.fst h

theorem linSt_status_self {a : State} {i : Nat} {o : LazyMapSpec.Op} {m : LazyMapSpec.Map}
    {r : Res} (h : LazyMapSpec.apply a.map o = (m, r)) : (linSt a i o).status i = .linearized r :=
  upd_same.trans (congrArg (Status.linearized ∘ Prod.snd) h)

open LazyMapSpec (apply) in
theorem apply_missing {m : LazyMapSpec.Map} {op : Op} (hl : op.isLoad = true)
    (h : m op.key = none) : apply m (opS op) = (m, .missing) := by
  cases op <;> simp_all [opS, apply, Op.key, Op.isLoad]

open LazyMapSpec (apply) in
theorem apply_found {m : LazyMapSpec.Map} {op : Op} {v : Nat} (hst : op.isStore = false)
    (h : m op.key = some v) : apply m (opS op) = (m, .found v) := by
  cases op <;> simp_all [opS, apply, Op.key, Op.isStore]

open LazyMapSpec (apply) in
theorem apply_write {m : LazyMapSpec.Map} {op : Op} (hl : op.isLoad = false)
    (h : op.isStore = false → m op.key = none) :
    ∃ r, apply m (opS op) = (m.set op.key op.value, r) ∧
      retM r = if op.isStore then .unit else .val op.value := by
  cases op with
  | load => cases hl
  | los k fv =>
    exact ⟨.found fv, by simp [opS, apply, show m k = none from h rfl, Op.key, Op.value], rfl⟩
  | store k v => exact ⟨.unit, rfl, rfl⟩

/-- The specification status of a thread, from its program counter. `wait` carries the helping
argument: a waiting reader is `pending` exactly while its key's cell still holds the placeholder
it waits for, and `linearized` with the placeholder's value from the owner's raw store on; a
waiting `Store` stays `pending` until its own final store. -/
def StatusRel (s : Sys) (t : Thread) (st : Status) : Prop :=
  match t.todo with
  | [] => st = .idle
  | op :: _ =>
    match t.pc with
    | .start => st = .idle
    | .compute _ => st = .pending
    | .rawStore _ _ => st = .pending
    | .finalStore => st = .pending
    | .signal _ v => ∃ r, st = .linearized r ∧ retM r = if op.isStore then .unit else .val v
    | .wait q =>
      if op.isStore = true ∨ s.cell op.key = .infl q then st = .pending
      else ∃ r, st = .linearized r ∧ retM r = retOfPh (s.ph q)

/-- the simulation relation between an implementation state and a specification state -/
structure R (s : Sys) (a : State) : Prop where
  map : a.map = absMap s
  todo : ∀ t, a.todo t = (s.threads t).todo.map opS
  rets : ∀ t, (a.rets t).map retM = (s.threads t).rets
  status : ∀ t, StatusRel s (s.threads t) (a.status t)

theorem StatusRel.start {s : Sys} {rest : List Op} {rets : List Ret} :
    StatusRel s { todo := rest, pc := .start, rets := rets } .idle := by
  unfold StatusRel; split <;> rfl

/-- `StatusRel` of a thread executing `op` at `pc`: only the head of `todo` and the pc matter -/
def OpStatus (s : Sys) (op : Op) (pc : Pc) (st : Status) : Prop :=
  StatusRel s { todo := [op], pc := pc, rets := [] } st

theorem StatusRel.cons {s : Sys} {t : Thread} {op : Op} {rest : List Op} {st : Status}
    (h0 : t.todo = op :: rest) : StatusRel s t st = OpStatus s op t.pc st := by
  unfold OpStatus StatusRel; rw [h0]

theorem OpStatus.wait {s : Sys} {op : Op} {q : Nat} {st : Status} :
    OpStatus s op (.wait q) st =
      if op.isStore = true ∨ s.cell op.key = .infl q then st = .pending
      else ∃ r, st = .linearized r ∧ retM r = retOfPh (s.ph q) := rfl

theorem R.statusAt {s : Sys} {a : State} (hR : R s a) {i : Nat} {op : Op} {rest : List Op}
    {pc : Pc} (htodo : (s.threads i).todo = op :: rest) (hpc : (s.threads i).pc = pc) :
    OpStatus s op pc (a.status i) := by
  have := hR.status i
  rwa [StatusRel.cons htodo, hpc] at this

theorem R.todoAt {s : Sys} {a : State} (hR : R s a) {i : Nat} {op : Op} {rest : List Op}
    (htodo : (s.threads i).todo = op :: rest) : a.todo i = opS op :: rest.map opS := by
  rw [hR.todo i, htodo]; rfl

/-- thread `t` is a reader (`Load`/`LoadOrStore`) waiting on placeholder `p` -/
def waitsOn (t : Thread) (p : Nat) : Prop :=
  ∃ o rest, t.todo = o :: rest ∧ t.pc = .wait p ∧ o.isStore = false

/-- Another thread's status survives a step, unless it is a reader waiting on the placeholder
whose owner does its raw store. -/
theorem StatusRel.effect {s s1 : Sys} {t : Thread} {st : Status} {op : Op} {pc : Pc}
    (h : StatusRel s t st) (hI : Inv s) (ht : TInv s t) (he : Effect s s1 op pc)
    (hq : ∀ q v, waitsOn t q → pc ≠ .rawStore q v) : StatusRel s1 t st := by
  cases h0 : t.todo with
  | nil => unfold StatusRel at h ⊢; rw [h0] at h ⊢; exact h
  | cons o rest =>
    have hp := ht.cons h0
    rw [StatusRel.cons h0] at h ⊢
    cases hpc : t.pc with
    | wait q =>
      rw [hpc] at h hp
      rw [OpStatus.wait] at h ⊢
      by_cases hs : o.isStore = true
      · rw [if_pos (.inl hs)] at h ⊢; exact h
      by_cases hc : s.cell o.key = .infl q
      · rw [if_pos (.inr hc)] at h
        rw [if_pos (.inr ((he.infl hc).resolve_right
          (fun ⟨v, e, _⟩ => hq q v ⟨o, rest, h0, hpc, Bool.eq_false_iff.mpr hs⟩ e)))]
        exact h
      · obtain ⟨_, v, hv⟩ := hp.2.resolve_left hc
        have hc1 : s1.cell o.key ≠ .infl q := fun e =>
          (he.inflNew _ _ e).elim hc (fun e' => by
            have hlt := hI.phOfLt hp.1; rw [e'.1] at hlt; exact Nat.lt_irrefl _ hlt)
        rw [if_neg (fun x => x.elim hs hc)] at h
        rw [if_neg (fun x => x.elim hs hc1), retOfPh_val (he.phV hv), ← retOfPh_val hv]
        exact h
    | _ => rw [hpc] at h; exact h

/-- the specification can go from `a` to a state related to `s'`, emitting exactly the visible
events by which `s'.trace` extends `s.trace` -/
def Sim (s : Sys) (a : State) (s' : Sys) : Prop :=
  ∃ ls a', Steps a ls a' ∧ R s' a' ∧
    s'.trace.map Ev.obs = s.trace.map Ev.obs ++ ls.filterMap labObs

/-- what the stepping thread's specification status has to be before the `ret` (if any) -/
def SelfOk (s1 : Sys) (op : Op) (st : Status) : Next → Prop
  | .goto pc' => OpStatus s1 op pc' st
  | .fin r _ => ∃ rs, st = .linearized rs ∧ retM rs = r

/-- The specification follows a step of thread `i`: `call` if the step is the first of its
operation, then invisible steps `ls` (linearizations) to a state `a1` that agrees with the
implementation, then `ret` if the step is the last of its operation. -/
theorem sim_post {s s1 : Sys} {a a1 : State} {i : Nat} {op : Op} {rest : List Op} {pc : Pc}
    {nx : Next} {ls : List Label} (hR : R s a)
    (htodo : (s.threads i).todo = op :: rest) (hpc : (s.threads i).pc = pc)
    (hmid : Steps (if pc = .start then callSt a i else a) ls a1)
    (hinvis : ls.filterMap labObs = [])
    (htd : a1.todo = a.todo) (hrt : a1.rets = a.rets) (hmap : a1.map = absMap s1)
    (hoth : ∀ j, j ≠ i → StatusRel s1 (s.threads j) (a1.status j))
    (hself : SelfOk s1 op (a1.status i) nx) : Sim s a (post s1 s i rest op nx) := by
  have htdi := hR.todoAt htodo
  obtain ⟨cs, hcs, hcobs⟩ : ∃ cs, Steps a cs (if pc = .start then callSt a i else a) ∧
      (if pc = .start then s.trace ++ [.call i op] else s.trace).map Ev.obs
        = s.trace.map Ev.obs ++ cs.filterMap labObs := by
    by_cases h : pc = .start
    · rw [if_pos h, if_pos h]
      subst h
      exact ⟨_, Step.one (.call htdi (hR.statusAt htodo hpc)), by simp [Ev.obs, labObs]⟩
    · rw [if_neg h, if_neg h]; exact ⟨[], .nil _, by simp⟩
  cases nx with
  | goto pc' =>
    refine ⟨cs ++ ls, a1, hcs.append hmid, ⟨hmap, fun t => ?_, fun t => ?_, fun t => ?_⟩, ?_⟩
    · rw [htd, hR.todo t, post_threads]; split
      · rename_i e; rw [e]; rfl
      · rfl
    · rw [hrt, hR.rets t, post_threads]; split
      · rename_i e; rw [e]; rfl
      · rfl
    · show StatusRel s1 _ _
      rw [post_threads]; split
      · rename_i e
        rw [e, StatusRel.cons (t := advance (s.threads i) rest (.goto pc')) (rest := rest) htodo]
        exact hself
      · rename_i e; exact hoth t e
    · rw [List.filterMap_append, hinvis, List.append_nil, ← hcobs, ← hpc]; rfl
  | fin r via =>
    obtain ⟨rs, hst, hr⟩ := hself
    refine ⟨cs ++ ls ++ [.ret i (opS op) rs], retSt a1 i (rest.map opS) rs,
      (hcs.append hmid).append (Step.one (.ret (htd ▸ htdi) hst)),
      ⟨hmap, fun t => ?_, fun t => ?_, fun t => ?_⟩, ?_⟩
    · rw [post_threads]
      by_cases e : t = i
      · rw [if_pos e, e]; exact upd_same
      · rw [if_neg e, ← hR.todo t, ← htd]; exact upd_other e
    · rw [post_threads]
      by_cases e : t = i
      · rw [if_pos e, e]
        show List.map retM (LazyMapSpec.upd _ _ _ i) = (s.threads i).rets ++ [r]
        rw [upd_same, List.map_append, hrt, hR.rets i, ← hr]; rfl
      · rw [if_neg e, ← hR.rets t, ← hrt]
        exact congrArg _ (upd_other e)
    · show StatusRel s1 _ (LazyMapSpec.upd _ _ _ t)
      rw [post_threads]
      by_cases e : t = i
      · rw [if_pos e, e, upd_same]; exact StatusRel.start
      · rw [if_neg e, upd_other e]; exact hoth t e
    · rw [List.filterMap_append, List.filterMap_append, hinvis, List.append_nil, ← List.append_assoc,
        ← hcobs, ← hpc, ← hr]
      exact List.map_append ..

/-- the other threads after a step that linearizes none of them -/
theorem R.others {s s1 : Sys} {a a1 : State} {i : Nat} {op : Op} {pc : Pc} (hR : R s a) (hI : Inv s)
    (he : Effect s s1 op pc) (hnr : ∀ p v, pc ≠ .rawStore p v)
    (hst : ∀ j, j ≠ i → a1.status j = a.status j) :
    ∀ j, j ≠ i → StatusRel s1 (s.threads j) (a1.status j) :=
  fun j hj => hst j hj ▸ (hR.status j).effect hI (hI.thr j) he (fun q v _ => hnr q v)

/-- Only threads below `N` have started. The readers an owner's raw store has to linearize along
with itself are then finitely many, which an execution of the specification (a finite list of
steps) needs. -/
def StartedBelow (s : Sys) (N : Nat) : Prop := ∀ t, N ≤ t → (s.threads t).pc = .start

/-- In the specification, any set `W` of pending read-like calls on a present key can take
effect one after the other (threads `< N`), invisibly, each returning the present value. -/
theorem help_steps (a : State) (v N : Nat) (W : Nat → Prop) (hN : ∀ t, W t → t < N)
    (hW : ∀ t, W t → a.status t = .pending ∧
      ∃ op rest, a.todo t = op :: rest ∧ LazyMapSpec.apply a.map op = (a.map, .found v)) :
    ∃ ls a', Steps a ls a' ∧ ls.filterMap labObs = [] ∧ a'.todo = a.todo ∧ a'.rets = a.rets ∧
      a'.map = a.map ∧ (∀ t, W t → a'.status t = .linearized (.found v)) ∧
      ∀ t, ¬W t → a'.status t = a.status t := by
  induction N generalizing W with
  | zero =>
    exact ⟨[], a, .nil _, rfl, rfl, rfl, rfl, fun t h => absurd (hN t h) (Nat.not_lt_zero t),
      fun _ _ => rfl⟩
  | succ N ih =>
    obtain ⟨ls, a', hs, hf, htd, hrt, hm, hlin, hkeep⟩ := ih (fun t => W t ∧ t ≠ N)
      (fun t h => Nat.lt_of_le_of_ne (Nat.le_of_lt_succ (hN t h.1)) h.2) (fun t h => hW t h.1)
    by_cases hWN : W N
    · obtain ⟨hp, op, rest, htdN, happ⟩ := hW N hWN
      have hstN : a'.status N = .pending := (hkeep N (fun h => h.2 rfl)).trans hp
      refine ⟨ls ++ [.lin N], linSt a' N op, hs.append (Step.one (.lin (htd ▸ htdN) hstN)),
        by rw [List.filterMap_append, hf]; rfl, htd, hrt, ?_, fun t ht => ?_, fun t ht => ?_⟩
      · show (LazyMapSpec.apply a'.map op).1 = a.map
        rw [hm, happ]
      · show LazyMapSpec.upd a'.status N (.linearized (LazyMapSpec.apply a'.map op).2) t = _
        by_cases e : t = N
        · subst e; rw [upd_same, hm, happ]
        · rw [upd_other e]; exact hlin t ⟨ht, e⟩
      · have e : t ≠ N := fun e => ht (e ▸ hWN)
        exact (upd_other e).trans (hkeep t (fun h => ht h.1))
    · exact ⟨ls, a', hs, hf, htd, hrt, hm, fun t ht => hlin t ⟨ht, fun e => hWN (e ▸ ht)⟩,
        fun t ht => hkeep t (fun h => ht h.1)⟩

/-- The owner's raw store: the owner's call takes effect, and so does every reader already
waiting on the placeholder. -/
theorem sim_rawStore {s : Sys} {a : State} {i : Nat} {op : Op} {rest : List Op} {p v N : Nat}
    (hI : Inv s) (hF : StartedBelow s N) (hR : R s a)
    (htodo : (s.threads i).todo = op :: rest) (hpc : (s.threads i).pc = .rawStore p v)
    (he : Effect s (setCell s op.key (.val v)) op (.rawStore p v)) :
    Sim s a (post (setCell s op.key (.val v)) s i rest op (.goto (.signal p v))) := by
  obtain ⟨ho, hcell, hval⟩ := (hpc ▸ (hI.thr i).cons htodo : PcInv s op (.rawStore p v))
  have htd := hR.todoAt htodo
  obtain ⟨ri, happ, hri⟩ := apply_write (m := a.map) ho.notLoad
    (fun _ => hR.map ▸ absMap_notVal (by rw [hcell]; rfl))
  rw [hval] at happ hri
  let a1 := linSt a i (opS op)
  have ha1m : a1.map = a.map.set op.key v := linSt_map happ
  -- a reader waiting on `p` waits on the owner's key: a placeholder belongs to one key
  have hwait : ∀ t o restt, (s.threads t).todo = o :: restt → (s.threads t).pc = .wait p →
      o.key = op.key := by
    intro t o restt h1 h2
    have hp := (hI.thr t).cons h1
    rw [h2] at hp
    exact hI.phOfInj _ _ _ hp.1 ho.phOf
  let W : Nat → Prop := fun t => t ≠ i ∧ waitsOn (s.threads t) p
  have hW : ∀ t, W t → a1.status t = .pending ∧
      ∃ o rest, a1.todo t = o :: rest ∧ LazyMapSpec.apply a1.map o = (a1.map, .found v) := by
    intro t ⟨hti, o, restt, h1, h2, h3⟩
    have hk := hwait t o restt h1 h2
    constructor
    · show LazyMapSpec.upd _ _ _ t = _
      rw [upd_other hti]
      have := hR.statusAt h1 h2
      rwa [OpStatus.wait, if_pos (.inr (hk ▸ hcell))] at this
    · refine ⟨opS o, restt.map opS, hR.todoAt h1, ?_⟩
      rw [ha1m]
      exact apply_found h3 (by rw [hk]; exact if_pos rfl)
  have hN : ∀ t, W t → t < N := fun t ⟨_, _, _, _, h2, _⟩ =>
    Nat.lt_of_not_le (fun h => by have := hF t h; rw [h2] at this; cases this)
  obtain ⟨ls, a2, hls, hlf, htd2, hrt2, hm2, hlin, hkeep⟩ := help_steps a1 v N W hN hW
  refine sim_post hR htodo hpc (.cons (.lin htd (hR.statusAt htodo hpc)) hls) hlf htd2 hrt2
    (by rw [hm2, absMap_setCell_val, ← hR.map]; exact ha1m) (fun j hj => ?_) ?_
  · by_cases hw : waitsOn (s.threads j) p
    · have ⟨o, restj, h1, h2, h3⟩ := hw
      have hk := hwait j o restj h1 h2
      rw [hlin j ⟨hj, hw⟩, StatusRel.cons h1, h2, OpStatus.wait, if_neg]
      · refine ⟨.found v, rfl, (retOfPh_val ?_).symm⟩
        show (s.ph p).v = some v
        rw [ho.ph]
      · rintro (h | h)
        · rw [h3] at h; cases h
        · rw [hk, setCell_same] at h; cases h
    · rw [hkeep j (fun h => hw h.2)]
      show StatusRel _ _ (LazyMapSpec.upd _ _ _ j)
      rw [upd_other hj]
      exact (hR.status j).effect hI (hI.thr j) he (fun q w hq e => by cases e; exact hw hq)
  · rw [hkeep i (fun h => h.1 rfl)]
    exact ⟨ri, linSt_status_self happ, hri⟩

theorem retOfPh_done (h : PH) : retOfPh { h with done := true } = retOfPh h := rfl

theorem sim_step {s s' : Sys} {a : State} {i N : Nat} (hI : Inv s)
    (hF : StartedBelow s N) (hR : R s a) (h : step s i = some s') :
    Sim s a s' := by
  obtain ⟨op, rest, s1, nx, htodo, hs, rfl⟩ := step_some_inv h
  have htd := hR.todoAt htodo
  -- a call that takes effect and returns within its first atomic step: `call`, `lin`, `ret`
  have now : ∀ {rs r via}, LazyMapSpec.apply a.map (opS op) = (a.map, rs) → retM rs = r →
      (s.threads i).pc = .start → Effect s s op .start →
      Sim s a (post s s i rest op (.fin r via)) := by
    intro rs r via happ hr hpc he
    exact sim_post (a1 := linSt (callSt a i) i (opS op)) hR htodo hpc
      (Step.one (.lin htd upd_same)) rfl rfl rfl
      ((linSt_map (a := callSt a i) happ).trans hR.map)
      (hR.others hI he nofun (fun j hj => (upd_other hj).trans (upd_other hj)))
      ⟨rs, linSt_status_self (a := callSt a i) happ, hr⟩
  -- the first step of a call that does not return at once: `call`
  have first : ∀ {s2 pc'}, (s.threads i).pc = .start → Effect s s2 op .start →
      absMap s2 = absMap s → OpStatus s2 op pc' .pending →
      Sim s a (post s2 s i rest op (.goto pc')) := by
    intro s2 pc' hpc he hm hsr
    exact sim_post (a1 := callSt a i) hR htodo hpc (.nil _) rfl rfl rfl (hR.map.trans hm.symm)
      (hR.others hI he nofun (fun j hj => upd_other hj))
      (by rw [show (callSt a i).status i = .pending from upd_same]; exact hsr)
  -- a step after the first that is invisible or is the `ret` of a call that took effect earlier
  have later : ∀ {pc s2 nx}, (s.threads i).pc = pc → Effect s s2 op pc → absMap s2 = absMap s →
      pc ≠ .start → (∀ p v, pc ≠ .rawStore p v) → SelfOk s2 op (a.status i) nx →
      Sim s a (post s2 s i rest op nx) := by
    intro pc s2 nx hpc he hm h1 h2 h
    exact sim_post (a1 := a) hR htodo hpc (by rw [if_neg h1]; exact .nil _) rfl rfl rfl
      (hR.map.trans hm.symm) (hR.others hI he h2 (fun _ _ => rfl)) h
  have hti := (hI.thr i).cons htodo
  have he := hs.effect hI hti
  have hst := hR.statusAt htodo rfl
  generalize hpc : (s.threads i).pc = pc at hs hti he hst
  cases hs with
  | loadMissing hl hc =>
    exact now (apply_missing hl (hR.map ▸ absMap_notVal (by rw [hc]; rfl))) rfl hpc he
  | foundVal v hst' hc =>
    exact now (apply_found hst' (hR.map ▸ absMap_val hc)) rfl hpc he
  | toWait q hc => exact first hpc he rfl (by rw [OpStatus.wait, if_pos (.inr hc)])
  | install hl hc => exact first hpc he (absMap_setCell_notVal (by rw [hc]; rfl) rfl) rfl
  | storeFound w hst' hc => exact first hpc he rfl rfl
  | compute p hl | signal p v => exact later hpc he rfl nofun nofun hst
  | rawStore p v => exact sim_rawStore hI hF hR htodo hpc he
  | wakeStore q hd hst' =>
    rw [OpStatus.wait, if_pos (.inl hst')] at hst
    exact later hpc he rfl nofun nofun hst
  | wakeRet q hd hst' =>
    rw [OpStatus.wait, if_neg] at hst
    · exact later hpc he rfl nofun nofun hst
    rintro (h | h)
    · rw [hst'] at h; cases h
    · have := (wait_done hI hti hd).1; rw [h] at this; cases this
  | finalStore hst' =>
    obtain ⟨ri, happ, hri⟩ := apply_write (m := a.map) (op := op)
      (by cases op with | load => cases hst' | _ => rfl) (fun h => by rw [hst'] at h; cases h)
    rw [hst'] at hri
    exact sim_post (a1 := linSt a i (opS op)) hR htodo hpc (Step.one (.lin htd hst)) rfl rfl rfl
      (by rw [absMap_setCell_val, ← hR.map]; exact linSt_map happ)
      (hR.others hI he nofun (fun j hj => upd_other hj))
      ⟨ri, linSt_status_self happ, hri⟩

theorem Sim.trans {s s' s'' : Sys} {a : State} (h : Sim s a s')
    (h' : ∀ a', R s' a' → Sim s' a' s'') : Sim s a s'' := by
  obtain ⟨ls, a', hs, hR, htr⟩ := h
  obtain ⟨ls', a'', hs', hR', htr'⟩ := h' a' hR
  exact ⟨ls ++ ls', a'', hs.append hs', hR',
    by rw [htr', htr, List.filterMap_append, List.append_assoc]⟩

theorem sim_run {s : Sys} {a : State} {N : Nat} (hI : Inv s)
    (hF : StartedBelow s N) (hR : R s a) (sched : List Nat) :
    Sim s a (run s sched) := by
  induction sched generalizing s a N with
  | nil => exact ⟨[], a, .nil _, hR, (List.append_nil _).symm⟩
  | cons i is ih =>
    simp only [run]
    split
    · rename_i s' hstep
      refine (sim_step hI hF hR hstep).trans (fun a' hR' =>
        ih (N := max N (i + 1)) (inv_step hI hstep) (fun t ht => ?_) hR')
      obtain ⟨op, rest, s1, nx, _, _, rfl⟩ := step_some_inv hstep
      show (if t = i then _ else _ : Thread).pc = _
      rw [if_neg (Nat.ne_of_gt (Nat.le_trans (Nat.le_max_right ..) ht))]
      exact hF t (Nat.le_trans (Nat.le_max_left ..) ht)
    · exact ih hI hF hR

theorem refine_run (progs : Nat → List Op) (sched : List Nat) :
    ∃ ls a, Steps (LazyMapSpec.init (fun t => (progs t).map opS)) ls a ∧
      R (run (init progs) sched) a ∧
      ls.filterMap labObs = (run (init progs) sched).trace.map Ev.obs := by
  have hR : R (init progs) (LazyMapSpec.init (fun t => (progs t).map opS)) :=
    ⟨rfl, fun _ => rfl, fun _ => rfl, fun _ => StatusRel.start⟩
  obtain ⟨ls, a, hs, hR', htr⟩ := sim_run (N := 0) (inv_init progs) (fun _ _ => rfl) hR sched
  exact ⟨ls, a, hs, hR', htr.symm⟩

end Restli.LazyMap
