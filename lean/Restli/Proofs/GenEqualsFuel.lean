import Restli.Proofs.GenEquals
/-! The fuel argument of the generated-`Equals` model is an artefact of the model (the Go code
recurses over the value). A positive verdict survives more fuel: once `valueEq` says `true` at
some fuel it says `true` at every larger fuel (a `false` may be the fuel running out). -/
namespace Restli.Codec

/-- for any family built as `valueEq` and `valueEqZ` are: `false` at budget 0, `eqStep` of the level
below above it -/
theorem eqStep_fuel_mono {leaf : Prim → Value → Value → Bool} {env : Env}
    {E : Nat → Ty → Value → Value → Bool} (h0 : ∀ ty a b, E 0 ty a b = false)
    (hs : ∀ f, E (f + 1) = eqStep leaf env (E f)) {f g : Nat} (hfg : f ≤ g) (ty : Ty) (a b : Value)
    (ha : MapsOK a) (hb : MapsOK b) (h : E f ty a b = true) : E g ty a b = true := by
  have step : ∀ f ty a b, MapsOK a → MapsOK b → E f ty a b = true → E (f + 1) ty a b = true := by
    intro f
    induction f with
    | zero => intro ty a b _ _ h; rw [h0] at h; cases h
    | succ f ih =>
      intro ty a b ha hb h
      rw [hs] at h ⊢
      exact eqStep_mono (fun _ _ _ e => e) ih ty a b ha hb h
  induction hfg with
  | refl => exact h
  | step _ ih => exact step _ ty a b ha hb ih

end Restli.Codec
