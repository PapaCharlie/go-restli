import Restli.Proofs.Tunnel
/-! The sample request of C14's non-vacuity examples, and the closed facts about it that they use, decided by evaluation. -/
namespace Restli.Tunnel
open Restli.Mime Restli.TunnelSpec

def sampleQuery : Bytes := strB "q=find&x=%0D%0A--BOUNDARY--&ids=List(1,2)"
def sampleBody : Bytes := strB "{\"a\":\"\r\n--BOUNDARYx\r\n\"}"   -- boundary-LIKE, not the boundary
def sampleBoundary : Bytes := strB "0123456789abcdef0123456789abcdef0123456789abcdef0123456789ab"

theorem sample_token : TokenBoundary sampleBoundary := by
  have h : (isToken sampleBoundary && decide (sampleBoundary.length ≤ 70)) = true := by
    rw [sampleBoundary, strB_eq]; decide +kernel
  rw [Bool.and_eq_true, decide_eq_true_eq] at h
  exact ⟨h.1, h.2⟩

theorem sample_mustTunnel : MustTunnel 5 sampleQuery := by
  rw [sampleQuery, strB_eq]; decide +kernel

theorem sample_fresh : BoundaryFresh sampleBoundary sampleQuery sampleBody := by
  have h : (occursIn ([45, 45] ++ sampleBoundary) sampleQuery || occursIn ([45, 45] ++ sampleBoundary) sampleBody) = false := by
    simp only [sampleBoundary, sampleQuery, sampleBody, strB_eq]; decide +kernel
  rw [Bool.or_eq_false_iff] at h
  exact ⟨h.1, h.2⟩

theorem sample_body_ne : sampleBody ≠ [] := by
  rw [sampleBody, strB_eq]; decide +kernel

end Restli.Tunnel
