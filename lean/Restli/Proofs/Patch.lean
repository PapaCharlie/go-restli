import Restli.Model.Patch
import Restli.Proofs.Bytes
/-! Facts about the partial-update model: what `CheckFields` accepts, and that both the writer and
the reader go through it. -/
namespace Restli.Codec
open Json (JVal)

/-- a field the partial update deletes, sets or patches -/
def PU.touches (env : Env) (pu : PU) (f : Field) : Bool := pu.isDeleted f || pu.isSet f || pu.isPatched env f

/-- two different operations on one field -/
def PU.conflicts (env : Env) (pu : PU) (f : Field) : Bool :=
  (pu.isDeleted f && pu.isSet f) || (pu.isDeleted f && pu.isPatched env f) || (pu.isSet f && pu.isPatched env f)

/-- what `CheckFields` demands of one field -/
def fieldLegal (env : Env) (pu : PU) (excluded : Bytes → Bool) (f : Field) : Bool :=
  !pu.touches env f || (!excluded f.name && !pu.conflicts env f)

theorem fieldLegal_touched {env : Env} {pu : PU} {excluded : Bytes → Bool} {f : Field}
    (h : fieldLegal env pu excluded f = true) (ht : pu.touches env f = true) :
    excluded f.name = false ∧ pu.conflicts env f = false := by
  simpa [fieldLegal, ht] using h

/-- `CheckField` accepts a field exactly when nothing touches it, or it is not excluded and carries
one operation; the flags then record a delete / a set -/
theorem checkField_ok {excluded : Bytes → Bool} {name : Bytes} {d s p : Bool} {fl fl' : PUFlags} :
    checkField excluded name d s p fl = .ok fl' ↔
      (!(d || s || p) || (!excluded name && !((d && s) || (d && p) || (s && p)))) = true ∧
        { hasDeletes := fl.hasDeletes || d, hasSets := fl.hasSets || s } = fl' := by
  unfold checkField
  generalize excluded name = e
  cases d <;> cases s <;> cases p <;> cases e <;> simp

/-- `CheckFields` succeeds exactly when every field of the include closure is legal, and then the
flags say whether anything is deleted / set -/
theorem checkFieldsFrom_ok {env : Env} {pu : PU} {excluded : Bytes → Bool} {fields : List Field} {fl fl' : PUFlags} :
    checkFieldsFrom env pu excluded fields fl = .ok fl' ↔
      (∀ f ∈ fields, fieldLegal env pu excluded f = true) ∧
        { hasDeletes := fl.hasDeletes || fields.any (fun f => pu.isDeleted f),
          hasSets := fl.hasSets || fields.any (fun f => pu.isSet f) } = fl' := by
  induction fields generalizing fl with
  | nil => simp [checkFieldsFrom]
  | cons f rest ih =>
    rw [checkFieldsFrom]
    by_cases hleg : fieldLegal env pu excluded f = true
    · rw [checkField_ok.2 ⟨hleg, rfl⟩]
      simp only [ih, List.mem_cons, forall_eq_or_imp, hleg, true_and, List.any_cons, Bool.or_assoc]
    · cases h1 : checkField excluded f.name (pu.isDeleted f) (pu.isSet f) (pu.isPatched env f) fl with
      | ok fl1 => exact absurd (checkField_ok.1 h1).1 hleg
      | error e => simp [hleg]

theorem checkFields_ok_iff {env : Env} {n : TName} {pu : PU} {excluded : Bytes → Bool} :
    (∃ fl, checkFields env n pu excluded = .ok fl) ↔
      ∀ f ∈ allFields env (includeFuel env) n, fieldLegal env pu excluded f = true :=
  ⟨fun ⟨_, h⟩ => (checkFieldsFrom_ok.1 h).1, fun h => ⟨_, checkFieldsFrom_ok.2 ⟨h, rfl⟩⟩⟩

theorem checkFieldsFrom_flags (env : Env) (pu : PU) (excluded : Bytes → Bool) :
    ∀ (fields : List Field) (fl fl' : PUFlags), checkFieldsFrom env pu excluded fields fl = .ok fl' →
      fl'.hasDeletes = (fl.hasDeletes || fields.any (fun f => pu.isDeleted f)) ∧
      fl'.hasSets = (fl.hasSets || fields.any (fun f => pu.isSet f)) := by
  intro fields fl fl' h
  rw [← (checkFieldsFrom_ok.1 h).2]
  exact ⟨rfl, rfl⟩

/-- whatever `MarshalRestLiPatch` emits passed `CheckFields` under the writer's exclusion spec -/
theorem marshalPatch_ok_legal {c : EncCfg} {fuel : Nat} {scope : List Bytes} {n : TName} {pu : PU} {d : Doc}
    (h : marshalPatch c fuel scope n pu = .ok d) :
    ∀ f ∈ allFields c.env (includeFuel c.env) n,
      fieldLegal c.env pu (fun k => c.excl.matchesB (scope ++ [k])) f = true := by
  apply checkFields_ok_iff.1
  cases fuel with
  | zero => simp [marshalPatch] at h
  | succ f =>
    simp only [marshalPatch] at h
    split at h
    · simp at h
    · next fl hfl => exact ⟨fl, hfl⟩

/-- whatever `UnmarshalRestLiPatch` returns passed `CheckFields` under the reader's exclusion spec -/
theorem unmarshalPatch_ok_legal {c : TCfg} {fuel : Nat} {scope : List Seg} {n : TName} {pu₀ pu : PU}
    {t : JVal} {m : List Bytes} (h : unmarshalPatch c fuel scope n pu₀ t = .ok pu m) :
    ∀ f ∈ allFields c.env (includeFuel c.env) n,
      fieldLegal c.env pu (fun k => c.tracker.check (scope ++ [.key k]) == .yes) f = true := by
  apply checkFields_ok_iff.1
  cases fuel with
  | zero => simp [unmarshalPatch] at h
  | succ f =>
    simp only [unmarshalPatch] at h
    split at h
    · next kvs =>
      simp only [PRes.bind] at h
      split at h
      · next r m1 hr =>
        split at h
        · simp at h
        · next fl hfl =>
          simp only [PRes.ok.injEq] at h
          obtain ⟨rfl, _⟩ := h
          exact ⟨fl, hfl⟩
      all_goals simp at h
    · simp at h

end Restli.Codec
