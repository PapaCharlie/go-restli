import Restli.Model.Encode
import Restli.Proofs.SortKeys
/-! The side conditions on values and schemas that theorems about the codec assume: what Go's type
system guarantees of a value of a generated type, and well-formedness of a schema. -/
namespace Restli.Codec

mutual
/-- what Go's static types guarantee about a value: integers in range, float bit patterns of the
right width, map keys distinct -/
def ValOK : Value → Prop
  | .i32 v => -(2147483648 : Int) ≤ v ∧ v < 2147483648
  | .i64 v => -(9223372036854775808 : Int) ≤ v ∧ v < 9223372036854775808
  | .f32 b => b < 2 ^ 32
  | .f64 b => b < 2 ^ 64
  | .record fs => ValOKKvs fs
  | .union ms => ValOKKvs ms
  | .map es => KeysNodup es ∧ ValOKKvs es
  | .arr vs => ValOKList vs
  | _ => True
def ValOKKvs : List (Bytes × Value) → Prop
  | [] => True
  | (_, v) :: rest => ValOK v ∧ ValOKKvs rest
def ValOKList : List Value → Prop
  | [] => True
  | v :: rest => ValOK v ∧ ValOKList rest
end

theorem valOKKvs_mem : ∀ (l : List (Bytes × Value)), ValOKKvs l → ∀ e ∈ l, ValOK e.2 := by
  intro l h e he
  induction l with
  | nil => cases he
  | cons kv rest ih =>
    simp only [ValOKKvs] at h
    rcases List.mem_cons.1 he with rfl | he
    · exact h.1
    · exact ih h.2 he

theorem valOKList_mem : ∀ (l : List Value), ValOKList l → ∀ v ∈ l, ValOK v := by
  intro l h v hv
  induction l with
  | nil => cases hv
  | cons x rest ih =>
    simp only [ValOKList] at h
    rcases List.mem_cons.1 hv with rfl | hv
    · exact h.1
    · exact ih h.2 hv

theorem lookup_valOK (fs : List (Bytes × Value)) (h : ValOKKvs fs) (k : Bytes) (v : Value)
    (hl : Value.lookup fs k = some v) : ValOK v := by
  have := lookup_mem (l := fs) (by simpa [Value.lookup] using hl)
  exact valOKKvs_mem fs h _ this

/-- schema well-formedness the round trip needs -/
structure SchemaOK (env : Env) : Prop where
  enumNodup : ∀ n syms, env.find n = some (.enum syms) → syms.Nodup
  fieldsNodup : ∀ n incs own, env.find n = some (.record incs own) →
    ((allFields env (includeFuel env) n).map (·.name)).Nodup
  membersNodup : ∀ n hn ms, env.find n = some (.union hn ms) → (ms.map (·.1)).Nodup

/-- `SchemaOK` as a check that `decide` can run on a concrete schema -/
def schemaOKb (env : Env) : Bool :=
  env.all (fun e => match e.2 with
    | .enum syms => decide syms.Nodup
    | .record _ _ => decide ((allFields env (includeFuel env) e.1).map (·.name)).Nodup
    | .union _ ms => decide (ms.map (·.1)).Nodup
    | _ => true)

theorem schemaOK_of_check (env : Env) (h : schemaOKb env = true) : SchemaOK env := by
  unfold schemaOKb at h
  simp only [List.all_eq_true] at h
  exact ⟨fun n syms hf => by simpa using h _ (lookup_mem hf), fun n incs own hf => by simpa using h _ (lookup_mem hf),
    fun n hn ms hf => by simpa using h _ (lookup_mem hf)⟩

end Restli.Codec
