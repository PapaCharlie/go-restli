import Restli.Proofs.Ror2Bridge
import Restli.Proofs.SortKeys
import Restli.Proofs.Digits
import Restli.Proofs.Escape
import Restli.Model.RenderRor2
import Restli.Model.Norm
/-! What the ROR2 writer renders is the rendering of a well-formed raw-token tree (`rawOf`), so the
bridge applies to every document any encoder can produce; and what the reader's leaf functions make
of each token the writer emits. -/
namespace Restli.Codec
open Json (JVal)

/-- what the proofs need from a flavour's escaper/unescaper pair (instances: Props/C01) -/
structure EscLaws (esc : Bytes → Bytes) (plus : Bool) : Prop where
  rt : ∀ b, Escape.unescape plus (esc b) = some b
  clean : ∀ b, ∀ c ∈ esc b, c ∉ Escape.reserved
  ne : ∀ b, b ≠ [] → esc b ≠ []

mutual
/-- the raw-token tree the ROR2 writer's output is the rendering of; `rawOf_eq_treeOf` identifies it
with `treeOf (rawEnc esc plus)`, the ROR2 instance of the generic tree encoding -/
def rawOf (esc : Bytes → Bytes) : Doc → JVal
  | .int v => .str (Strconv.formatInt v)
  | .f64 b => .str (ror2Float esc b)
  | .bool b => .str (if b then trueB else falseB)
  | .str b => .str (ror2Str esc b)
  | .bytes b => .str (ror2Str esc b)
  | .obj kvs => .obj (rawOfKvs esc kvs)
  | .arr xs => .arr (rawOfItems esc xs)
def rawOfKvs (esc : Bytes → Bytes) : List (Bytes × Doc) → List (Bytes × JVal)
  | [] => []
  | (k, v) :: rest => (ror2Str esc k, rawOf esc v) :: rawOfKvs esc rest
def rawOfItems (esc : Bytes → Bytes) : List Doc → List JVal
  | [] => []
  | v :: rest => rawOf esc v :: rawOfItems esc rest
end

/-- Induction over a document together with its member and element lists: the recursion of every
function on `Doc` (`renderRor2`, `rawOf`, `treeOf`). -/
theorem Doc.induct3 {P : Doc → Prop} {PK : List (Bytes × Doc) → Prop} {PI : List Doc → Prop}
    (int : ∀ v, P (.int v)) (f64 : ∀ b, P (.f64 b)) (bool : ∀ b, P (.bool b)) (str : ∀ b, P (.str b))
    (bytes : ∀ b, P (.bytes b))
    (obj : ∀ kvs, PK kvs → P (.obj kvs)) (arr : ∀ xs, PI xs → P (.arr xs))
    (knil : PK []) (kcons : ∀ k v rest, P v → PK rest → PK ((k, v) :: rest))
    (inil : PI []) (icons : ∀ v rest, P v → PI rest → PI (v :: rest)) :
    (∀ d, P d) ∧ (∀ kvs, PK kvs) ∧ (∀ xs, PI xs) := by
  have doc : ∀ d, P d :=
    Doc.rec (motive_2 := PK) (motive_3 := PI) (motive_4 := fun e => P e.2) int f64 bool str bytes obj arr
      knil (fun e rest => kcons e.1 e.2 rest) inil icons (fun _ _ h => h)
  refine ⟨doc, fun kvs => ?_, fun xs => ?_⟩
  · induction kvs with
    | nil => exact knil
    | cons e rest ih => exact kcons e.1 e.2 rest (doc e.2) ih
  · induction xs with
    | nil => exact inil
    | cons v rest ih => exact icons v rest (doc v) ih

/-- A property of bytes holds of everything the writer emits once it holds of what the string
escaper returns, of digits, and of the writer's own punctuation and keywords. -/
theorem renderRor2_forall (esc : Bytes → Bytes) (P : UInt8 → Prop) (hesc : ∀ b, ∀ c ∈ esc b, P c)
    (hdig : ∀ c, Strconv.isDigit c = true → P c) (hp : ∀ c ∈ [45, 40, 41, 44, 58], P c)
    (hw : ∀ w ∈ [Gen.emptyMarker, Gen.listPrefix, trueB, falseB, infinityB, nanB], ∀ c ∈ w, P c) :
    (∀ d, ∀ c ∈ renderRor2 esc d, P c) ∧ (∀ kvs, ∀ c ∈ renderRor2Kvs esc kvs, P c) ∧
      (∀ xs, ∀ c ∈ renderRor2Items esc xs, P c) := by
  simp only [List.forall_mem_cons] at hp hw
  obtain ⟨minus, lpar, rpar, comma, colon, -⟩ := hp
  obtain ⟨empty, list, true, false, inf, nan, -⟩ := hw
  have str : ∀ b, ∀ c ∈ ror2Str esc b, P c := by
    intro b
    unfold ror2Str
    split
    · exact empty
    · exact hesc b
  refine Doc.induct3 ?_ ?_ ?_ str str ?_ ?_ nofun ?_ nofun ?_
  · intro v c hc
    rcases (Strconv.formatInt_clean v).2 c hc with hd | rfl
    · exact hdig c hd
    · exact minus
  · intro b
    simp only [renderRor2, ror2Float]
    split
    · exact nan
    · split
      · split
        · exact List.forall_mem_cons.2 ⟨minus, inf⟩
        · exact inf
      · exact hesc _
  · intro b
    cases b
    · exact false
    · exact true
  · intro kvs ih
    simp only [renderRor2, List.forall_mem_cons, List.forall_mem_append]
    exact ⟨lpar, ih, rpar, nofun⟩
  · intro xs ih
    simp only [renderRor2, List.forall_mem_cons, List.forall_mem_append]
    exact ⟨list, ih, rpar, nofun⟩
  · intro k v rest hv hrest
    cases rest with
    | nil =>
      simp only [renderRor2Kvs, List.forall_mem_cons, List.forall_mem_append]
      exact ⟨str k, colon, hv⟩
    | cons e2 rest =>
      simp only [renderRor2Kvs, List.forall_mem_cons, List.forall_mem_append]
      exact ⟨⟨str k, colon, hv⟩, comma, hrest⟩
  · intro v rest hv hrest
    cases rest with
    | nil => exact hv
    | cons v2 rest =>
      simp only [renderRor2Items, List.forall_mem_cons, List.forall_mem_append]
      exact ⟨hv, comma, hrest⟩

theorem renderRor2_eq_all (esc : Bytes → Bytes) :
    (∀ d, renderRor2 esc d = renderRaw (rawOf esc d)) ∧
    (∀ kvs, renderRor2Kvs esc kvs = renderRawKvs (rawOfKvs esc kvs)) ∧
    (∀ xs, renderRor2Items esc xs = renderRawItems (rawOfItems esc xs)) :=
  Doc.induct3 (fun _ => rfl) (fun _ => rfl) (fun _ => rfl) (fun _ => rfl) (fun _ => rfl)
    (fun kvs ih => by rw [renderRor2, rawOf, renderRaw, ih]) (fun xs ih => by rw [renderRor2, rawOf, renderRaw, ih])
    rfl
    (fun k v rest ihv ihr => by
      cases rest with
      | nil => simp only [renderRor2Kvs, rawOfKvs, renderRawKvs, ihv]
      | cons e more =>
        obtain ⟨k2, v2⟩ := e
        simp only [rawOfKvs] at ihr
        simp only [renderRor2Kvs, rawOfKvs, renderRawKvs, ihv, ihr])
    rfl
    (fun v rest ihv ihr => by
      cases rest with
      | nil => simp only [renderRor2Items, rawOfItems, renderRawItems, ihv]
      | cons v2 more =>
        simp only [rawOfItems] at ihr
        simp only [renderRor2Items, rawOfItems, renderRawItems, ihv, ihr])

theorem renderRor2_eq_renderRaw (esc : Bytes → Bytes) : (d : Doc) → renderRor2 esc d = renderRaw (rawOf esc d) :=
  (renderRor2_eq_all esc).1
theorem renderRor2Kvs_eq (esc : Bytes → Bytes) : (kvs : List (Bytes × Doc)) →
    renderRor2Kvs esc kvs = renderRawKvs (rawOfKvs esc kvs) :=
  (renderRor2_eq_all esc).2.1
theorem renderRor2Items_eq (esc : Bytes → Bytes) : (xs : List Doc) →
    renderRor2Items esc xs = renderRawItems (rawOfItems esc xs) :=
  (renderRor2_eq_all esc).2.2

/-- the text a float is written as, before the flavour's escaper is applied to it (the three
special values are written verbatim): `ror2Float esc b` is `floatText b` or `esc (floatText b)`,
`ror2Float_cases` -/
def floatText (bits : Nat) : Bytes :=
  let d := Strconv.decodeBits Strconv.f64 bits
  if d.cls == 2 then nanB
  else if d.cls == 1 then (if d.neg then 45 :: infinityB else infinityB)
  else Strconv.formatFloat64 bits

/-- what the proofs assume about `strconv` float formatting/parsing and the float32/float64
conversions (third-party; modelled in Lib/Strconv.lean and compared with Go on every run):
hypotheses of the theorems, never axioms -/
structure FloatLaws : Prop where
  text_ne : ∀ b, floatText b ≠ []
  rt64 : ∀ b, b < 2 ^ 64 → Strconv.parseFloat Strconv.f64 (floatText b) = .ok (normF Strconv.f64 b)
  rt32 : ∀ b, b < 2 ^ 32 →
    Strconv.parseFloat Strconv.f32 (floatText (Strconv.convert Strconv.f32 Strconv.f64 b)) = .ok (normF Strconv.f32 b)

theorem ror2Str_nil (esc : Bytes → Bytes) : ror2Str esc [] = Gen.emptyMarker := rfl

theorem ror2Str_of_ne_nil (esc : Bytes → Bytes) (b : Bytes) (hb : b ≠ []) : ror2Str esc b = esc b := by
  rw [ror2Str, if_neg]
  rw [List.isEmpty_iff]; exact hb

/-- a token the writer emits without escaping it (integers, booleans, the three special floats):
non-empty, no byte that ends or nests a value, no byte the unescaper rewrites -/
abbrev PlainTok (t : Bytes) : Prop := t ≠ [] ∧ ∀ c ∈ t, c ≠ 40 ∧ c ≠ 41 ∧ c ≠ 44 ∧ c ≠ 37 ∧ c ≠ 43

theorem PlainTok.tokClean {t : Bytes} (h : PlainTok t) : tokClean t :=
  ⟨h.1, fun c hc => ⟨(h.2 c hc).1, (h.2 c hc).2.1, (h.2 c hc).2.2.1⟩⟩

theorem PlainTok.unescape {t : Bytes} (h : PlainTok t) (plus : Bool) : Escape.unescape plus t = some t :=
  Escape.unescape_of_plain plus t (fun c hc => (h.2 c hc).2.2.2)

theorem formatInt_plain (v : Int) : PlainTok (Strconv.formatInt v) := by
  refine ⟨(Strconv.formatInt_clean v).1, fun c hc => ?_⟩
  rcases (Strconv.formatInt_clean v).2 c hc with h | rfl
  · exact ⟨Strconv.isDigit_ne c 40 h rfl, Strconv.isDigit_ne c 41 h rfl, Strconv.isDigit_ne c 44 h rfl,
      Strconv.isDigit_ne c 37 h rfl, Strconv.isDigit_ne c 43 h rfl⟩
  · decide

theorem bool_plain (b : Bool) : PlainTok (if b then trueB else falseB) := by
  cases b <;> decide

theorem specials_plain : PlainTok nanB ∧ PlainTok infinityB ∧ PlainTok (45 :: infinityB) := by decide

theorem ror2Float_cases (esc : Bytes → Bytes) (b : Nat) :
    ror2Float esc b = floatText b ∧ PlainTok (floatText b) ∨ ror2Float esc b = esc (floatText b) := by
  rw [ror2Float, floatText]
  by_cases h2 : ((Strconv.decodeBits Strconv.f64 b).cls == 2) = true
  · rw [if_pos h2, if_pos h2]
    exact Or.inl ⟨rfl, specials_plain.1⟩
  · rw [if_neg h2, if_neg h2]
    by_cases h1 : ((Strconv.decodeBits Strconv.f64 b).cls == 1) = true
    · rw [if_pos h1, if_pos h1]
      refine Or.inl ⟨rfl, ?_⟩
      split
      · exact specials_plain.2.2
      · exact specials_plain.2.1
    · rw [if_neg h1, if_neg h1]
      exact Or.inr rfl

section
variable {esc : Bytes → Bytes} {plus : Bool} (E : EscLaws esc plus)
include E

theorem esc_keyClean (b : Bytes) (hb : b ≠ []) : keyClean (esc b) := by
  refine ⟨E.ne b hb, fun c hc => ?_⟩
  have : c ≠ 40 ∧ c ≠ 41 ∧ c ≠ 44 ∧ c ≠ 58 ∧ c ≠ 39 := by simpa [Escape.reserved] using E.clean b c hc
  exact ⟨this.1, this.2.1, this.2.2.1, this.2.2.2.1⟩

/-- the quote is reserved, so an escaped string is never mistaken for the empty marker `''` -/
theorem esc_ne_emptyMarker (b : Bytes) : esc b ≠ Gen.emptyMarker :=
  fun heq => E.clean b 39 (heq ▸ List.mem_cons_self ..) (by decide)

theorem ror2Str_keyClean (b : Bytes) : keyClean (ror2Str esc b) := by
  by_cases hb : b = []
  · rw [hb, ror2Str_nil]
    exact ⟨by decide, by decide⟩
  · rw [ror2Str_of_ne_nil esc b hb]
    exact esc_keyClean E b hb

theorem ror2Float_tokClean (F : FloatLaws) (b : Nat) : tokClean (ror2Float esc b) := by
  rcases ror2Float_cases esc b with ⟨h, hp⟩ | h
  · rw [h]; exact hp.tokClean
  · rw [h]; exact keyClean_tokClean (esc_keyClean E _ (F.text_ne b))

end

theorem rawOf_wf_all (esc : Bytes → Bytes) (plus : Bool) (E : EscLaws esc plus) (F : FloatLaws) :
    (∀ d, RawWF (rawOf esc d)) ∧ (∀ kvs, RawWFKvs (rawOfKvs esc kvs)) ∧ (∀ xs, RawWFItems (rawOfItems esc xs)) :=
  Doc.induct3
    (fun v => (formatInt_plain v).tokClean) (ror2Float_tokClean E F) (fun b => (bool_plain b).tokClean)
    (fun b => keyClean_tokClean (ror2Str_keyClean E b)) (fun b => keyClean_tokClean (ror2Str_keyClean E b))
    (fun _ ih => ih) (fun _ ih => ih)
    trivial (fun k _ _ ihv ihr => ⟨ror2Str_keyClean E k, ihv, ihr⟩)
    trivial (fun _ _ ihv ihr => ⟨ihv, ihr⟩)

/-- every document the ROR2 writer can be asked to emit renders to a well-formed raw-token tree -/
theorem rawOf_wf (esc : Bytes → Bytes) (plus : Bool) (E : EscLaws esc plus) (F : FloatLaws) :
    (d : Doc) → RawWF (rawOf esc d) :=
  (rawOf_wf_all esc plus E F).1
theorem rawOfKvs_wf (esc : Bytes → Bytes) (plus : Bool) (E : EscLaws esc plus) (F : FloatLaws) :
    (kvs : List (Bytes × Doc)) → RawWFKvs (rawOfKvs esc kvs) :=
  (rawOf_wf_all esc plus E F).2.1
theorem rawOfItems_wf (esc : Bytes → Bytes) (plus : Bool) (E : EscLaws esc plus) (F : FloatLaws) :
    (xs : List Doc) → RawWFItems (rawOfItems esc xs) :=
  (rawOf_wf_all esc plus E F).2.2

section
variable {esc : Bytes → Bytes} {plus : Bool} (E : EscLaws esc plus)
include E

theorem tokString_ror2Str (b : Bytes) : tokString plus (ror2Str esc b) = some b := by
  by_cases hb : b = []
  · rw [hb, ror2Str_nil]; rfl
  · rw [ror2Str_of_ne_nil esc b hb, tokString, if_neg, if_neg, E.rt]
    · rw [beq_iff_eq]; exact esc_ne_emptyMarker E b
    · rw [List.isEmpty_iff]; exact E.ne b hb

theorem decodeKey_ror2Str (k : Bytes) : decodeKey plus (ror2Str esc k) = some k := by
  by_cases hk : k = []
  · rw [hk, ror2Str_nil]; rfl
  · rw [ror2Str_of_ne_nil esc k hk, decodeKey, if_neg, E.rt]
    rw [beq_iff_eq]; exact esc_ne_emptyMarker E k

theorem tokPrim_str (b : Bytes) : tokPrim plus .str (ror2Str esc b) = .ok (.str b) := by
  simp [tokPrim, tokString_ror2Str E b]

theorem tokPrim_bytes (b : Bytes) : tokPrim plus .bytes (ror2Str esc b) = .ok (.bytes b) := by
  simp [tokPrim, tokString_ror2Str E b]

theorem unescape_ror2Float (b : Nat) : Escape.unescape plus (ror2Float esc b) = some (floatText b) := by
  rcases ror2Float_cases esc b with ⟨h, hp⟩ | h
  · rw [h]; exact hp.unescape plus
  · rw [h]; exact E.rt _

theorem tokPrim_f64 (F : FloatLaws) (b : Nat) (hb : b < 2 ^ 64) :
    tokPrim plus .f64 (ror2Float esc b) = .ok (.f64 (normF Strconv.f64 b)) := by
  simp [tokPrim, unescape_ror2Float E b, F.rt64 b hb]

theorem tokPrim_f32 (F : FloatLaws) (b : Nat) (hb : b < 2 ^ 32) :
    tokPrim plus .f32 (ror2Float esc (Strconv.convert Strconv.f32 Strconv.f64 b)) = .ok (.f32 (normF Strconv.f32 b)) := by
  simp [tokPrim, unescape_ror2Float E _, F.rt32 b hb]

end

theorem tokPrim_i32 (plus : Bool) (v : Int) (hlo : -(2147483648 : Int) ≤ v) (hhi : v < 2147483648) :
    tokPrim plus .i32 (Strconv.formatInt v) = .ok (.i32 v) := by
  have hp := Strconv.parseInt_formatInt 32 v (by simpa using hlo) (by simpa using hhi)
  simp [tokPrim, (formatInt_plain v).unescape plus, hp]

theorem tokPrim_i64 (plus : Bool) (v : Int) (hlo : -(9223372036854775808 : Int) ≤ v) (hhi : v < 9223372036854775808) :
    tokPrim plus .i64 (Strconv.formatInt v) = .ok (.i64 v) := by
  have hp := Strconv.parseInt_formatInt 64 v (by simpa using hlo) (by simpa using hhi)
  simp [tokPrim, (formatInt_plain v).unescape plus, hp]

-- `parseBool` compares `String`s, which only the kernel evaluates quickly
theorem parseBool_trueB : Strconv.parseBool trueB = some true := by decide +kernel
theorem parseBool_falseB : Strconv.parseBool falseB = some false := by decide +kernel

theorem tokPrim_bool (plus : Bool) (b : Bool) :
    tokPrim plus .bool (if b then trueB else falseB) = .ok (.bool b) := by
  have hp : Strconv.parseBool (if b then trueB else falseB) = some b := by
    cases b
    · exact parseBool_falseB
    · exact parseBool_trueB
  simp only [tokPrim, (bool_plain b).unescape plus, hp]

end Restli.Codec
