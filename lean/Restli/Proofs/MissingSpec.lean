import Restli.Proofs.TreeReaderEqns
import Restli.Proofs.LeafSem
import Restli.Proofs.Exclusion
/-! C06 at document level: what a reader reports as missing is a function of the document's
*shape* alone — which members are present and non-null, at which paths — and equals a short
specification that never looks at a value, an accumulator or a default. -/
namespace Restli.Codec
open Json (JVal)

/-- the decoded names of the non-null members of an object, in document order -/
def presentKeys (sem : LeafSem) : List (Bytes × JVal) → List Bytes
  | [] => []
  | (k0, v) :: rest =>
    match v with
    | .null => presentKeys sem rest
    | _ => (match sem.key k0 with | some k => [k] | none => []) ++ presentKeys sem rest

/-- the type a member is read at, if the reader looks at it at all -/
def memberTy (mode : MapMode) (k : Bytes) : Option Ty :=
  match mode with
  | .record fields => (findField fields k).map (·.ty)
  | .mapOf ty => some ty
  | .union members => members.lookup k

mutual
/-- **specification**: the required fields a document does not carry, by full path, for a value
read below the top level (records pass them up; only the top level turns them into an error).
The last case covers a `null` array or map and every wrong-shaped document: reading those reports
nothing or fails. -/
def specMissing (c : TCfg) (scope : List Seg) : Ty → JVal → List Bytes
  | .arr ty, .arr xs => specItems c scope ty 0 xs
  | .map ty, .obj kvs => specEntries c scope (.mapOf ty) kvs
  | .ref n, .obj kvs =>
    (match c.env.find n with
    | some (.record _ _) =>
      let fields := allFields c.env (includeFuel c.env) n
      missingAfter c.tracker scope fields (presentKeys c.sem kvs) (specEntries c scope (.record fields) kvs)
    | some (.union _ members) => specEntries c scope (.union members) kvs
    | _ => [])
  | .ref n, .null =>
    (match c.env.find n with
    | some (.record _ _) =>
      missingAfter c.tracker scope (allFields c.env (includeFuel c.env) n) [] []
    | _ => [])
  | _, _ => []
def specEntries (c : TCfg) (scope : List Seg) (mode : MapMode) : List (Bytes × JVal) → List Bytes
  | [] => []
  | (k0, v) :: rest =>
    match v with
    | .null => specEntries c scope mode rest
    | v =>
      (match c.sem.key k0 with
      | some k =>
        (match memberTy mode k with
        | some ty => specMissing c (scope ++ [.key k]) ty v
        | none => [])
      | none => []) ++ specEntries c scope mode rest
def specItems (c : TCfg) (scope : List Seg) (ty : Ty) (index : Nat) : List JVal → List Bytes
  | [] => []
  | x :: xs => specMissing c (scope ++ [.idx index]) ty x ++ specItems c scope ty (index + 1) xs
end

theorem specMissing_prim (c : TCfg) (scope : List Seg) (p : Prim) (t : JVal) :
    specMissing c scope (.prim p) t = [] := by
  cases t <;> rfl

theorem specMissing_ref (c : TCfg) (scope : List Seg) (n : TName) (t : JVal) :
    specMissing c scope (.ref n) t =
      match t with
      | .obj kvs =>
        (match c.env.find n with
        | some (.record _ _) =>
          let fields := allFields c.env (includeFuel c.env) n
          missingAfter c.tracker scope fields (presentKeys c.sem kvs) (specEntries c scope (.record fields) kvs)
        | some (.union _ members) => specEntries c scope (.union members) kvs
        | _ => [])
      | .null =>
        (match c.env.find n with
        | some (.record _ _) => missingAfter c.tracker scope (allFields c.env (includeFuel c.env) n) [] []
        | _ => [])
      | _ => [] := by
  cases t <;> rfl

theorem specEntries_cons {c : TCfg} {scope : List Seg} {mode : MapMode} {k0 : Bytes} {v : JVal}
    {rest : List (Bytes × JVal)} (hv : v ≠ .null) :
    specEntries c scope mode ((k0, v) :: rest) =
      (match c.sem.key k0 with
       | some k => (match memberTy mode k with
         | some ty => specMissing c (scope ++ [.key k]) ty v
         | none => [])
       | none => []) ++ specEntries c scope mode rest := by
  cases v with
  | null => exact absurd rfl hv
  | _ => rfl

theorem presentKeys_cons {sem : LeafSem} {k0 : Bytes} {v : JVal} {rest : List (Bytes × JVal)} (hv : v ≠ .null) :
    presentKeys sem ((k0, v) :: rest) =
      (match sem.key k0 with | some k => [k] | none => []) ++ presentKeys sem rest := by
  cases v with
  | null => exact absurd rfl hv
  | _ => rfl

/-- what the member callback does: it reads the member at the type `memberTy` gives and stores
the value, or it returns (or fails) without reading anything -/
theorem treeCallbackWith_cases (rd : Ty → TRes Value) (mode : MapMode) (acc : List (Bytes × Value)) (seen : List Bytes)
    (k : Bytes) :
    (∃ ty, memberTy mode k = some ty ∧
      treeCallbackWith rd mode acc seen k = bindT (rd ty) (fun x m => .ok (setEntry acc k x) m)) ∨
    (memberTy mode k = none ∧ treeCallbackWith rd mode acc seen k = .ok acc []) ∨
    (∃ e, treeCallbackWith rd mode acc seen k = .err e) := by
  cases mode with
  | record fields =>
    simp only [treeCallbackWith, memberTy]
    cases findField fields k with
    | none => exact .inr (.inl ⟨rfl, rfl⟩)
    | some f => exact .inl ⟨f.ty, rfl, rfl⟩
  | mapOf ty => exact .inl ⟨ty, rfl, rfl⟩
  | union members =>
    simp only [treeCallbackWith, memberTy]
    split
    · exact .inr (.inr ⟨_, rfl⟩)
    · cases members.lookup k with
      | none => exact .inr (.inr ⟨_, rfl⟩)
      | some ty => exact .inl ⟨ty, rfl, rfl⟩

mutual
/-- **what a reader reports as missing below the top level is exactly the specification** -/
theorem read_missing (c : TCfg) (hc : SemClean c.sem) : (t : JVal) → ∀ {scope : List Seg} {ty : Ty} {v : Value}
    {m : List Bytes}, treeRead c false scope ty t = .ok v m → m = specMissing c scope ty t
  | t, scope, .prim p, v, m, h => by
    rw [specMissing_prim]
    simp only [treeRead] at h
    exact hc.prim p t v m h
  | t, scope, .arr ty, v, m, h => by
    cases t with
    | null => cases h; rfl
    | arr xs =>
      simp only [treeRead] at h
      obtain ⟨vs, hr⟩ := bindT_ok_map h
      exact items_missing c hc xs scope ty 0 vs m hr
    | _ => cases h
  | t, scope, .map ty, v, m, h => by
    cases t with
    | null => cases h; rfl
    | obj kvs =>
      simp only [treeRead] at h
      obtain ⟨r, hr⟩ := bindT_ok_map h
      exact (entries_missing c hc kvs hr).1
    | _ => cases h
  | t, scope, .ref n, v, m, h => by
    rw [specMissing_ref]
    rw [treeRead] at h
    cases hfind : c.env.find n with
    | none => rw [hfind] at h; cases h
    | some decl =>
      rw [hfind] at h
      cases decl with
      | typeref p =>
        cases hc.prim p t v m h
        cases t <;> rfl
      | enum syms =>
        obtain ⟨b, hr⟩ := bindT_ok_map h
        cases hc.str t b m hr
        cases t <;> rfl
      | fixed size =>
        obtain ⟨x, m0, hr, hk⟩ := bindT_ok h
        cases hc.prim .bytes t x m0 hr
        split at hk
        · split at hk
          · cases hk; cases t <;> rfl
          · cases hk
        · cases hk
      | record incs own =>
        obtain ⟨r, m0, hr, hk⟩ := bindT_ok h
        rw [finishRecord_nested] at hk
        cases hk
        cases t with
        | null => cases hr; rfl
        | obj kvs =>
          have := entries_missing c hc kvs hr
          simp only [this.1, this.2, List.nil_append]
        | _ => cases hr
      | union hasNull members =>
        obtain ⟨r, m0, hr, hk⟩ := bindT_ok h
        split at hk
        · cases hk
        · cases hk
          cases t with
          | null => cases hr; rfl
          | obj kvs => exact (entries_missing c hc kvs hr).1
          | _ => cases hr
/-- … and the members the callback was called with are the non-null ones -/
theorem entries_missing (c : TCfg) (hc : SemClean c.sem) : (kvs : List (Bytes × JVal)) → ∀ {scope : List Seg}
    {mode : MapMode} {acc : List (Bytes × Value)} {seen : List Bytes} {r : List (Bytes × Value) × List Bytes}
    {m : List Bytes}, treeReadEntries c scope mode acc seen kvs = .ok r m →
    m = specEntries c scope mode kvs ∧ r.2 = seen ++ presentKeys c.sem kvs
  | [], scope, mode, acc, seen, r, m, h => by
    cases h
    exact ⟨rfl, (List.append_nil _).symm⟩
  | (k0, v) :: rest, scope, mode, acc, seen, r, m, h => by
    by_cases hv : v = .null
    · subst hv
      exact entries_missing c hc rest h
    rw [treeReadEntries_cons c scope mode acc seen k0 v rest hv] at h
    rw [specEntries_cons hv, presentKeys_cons hv]
    cases hk : c.sem.key k0 with
    | none => simp [hk] at h
    | some k =>
      simp only [hk] at h ⊢
      split at h
      · cases h
      · cases h
      · obtain ⟨acc', m1, hcb, hrest⟩ := bindT_ok h
        obtain ⟨res, m2, hre, hfin⟩ := bindT_ok hrest
        simp only [TRes.ok.injEq] at hfin
        obtain ⟨rfl, rfl⟩ := hfin
        obtain ⟨ih1, ih2⟩ := entries_missing c hc rest hre
        refine ⟨?_, by rw [ih2, List.append_assoc]⟩
        rw [← ih1]
        rcases treeCallbackWith_cases (fun ty => treeRead c false (scope ++ [.key k]) ty v) mode acc seen k with
          ⟨ty, hty, heq⟩ | ⟨hnone, heq⟩ | ⟨e, heq⟩
        · rw [heq] at hcb
          obtain ⟨x, hx⟩ := bindT_ok_map hcb
          rw [hty, read_missing c hc v hx]
        · rw [heq] at hcb; cases hcb
          rw [hnone]
        · rw [heq] at hcb; cases hcb
theorem items_missing (c : TCfg) (hc : SemClean c.sem) : (xs : List JVal) → ∀ (scope : List Seg) (ty : Ty) (idx : Nat)
    (vs : List Value) (m : List Bytes), treeReadItems c scope ty idx xs = .ok vs m →
    m = specItems c scope ty idx xs
  | [], scope, ty, idx, vs, m, h => by
    cases h
    rfl
  | x :: xs, scope, ty, idx, vs, m, h => by
    simp only [treeReadItems] at h
    obtain ⟨v, m1, hr, hk⟩ := bindT_ok h
    obtain ⟨vs', m2, hr2, hk2⟩ := bindT_ok hk
    cases hk2
    rw [read_missing c hc x hr, items_missing c hc xs scope ty (idx + 1) vs' m2 hr2]
    rfl
end

end Restli.Codec
