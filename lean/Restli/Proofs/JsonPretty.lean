import Restli.Proofs.JsonDoc
/-! The pretty JSON writer against the strict parser: the indentation and line breaks it inserts
are exactly where the grammar allows insignificant whitespace, so `renderPretty 0 d` parses to the
same tree as the compact rendering. -/
namespace Restli.Codec
open Json (parseMembers parseElements)

theorem wsOnly_ind (n : Nat) : WsOnly (ind n) :=
  fun c hc => by rw [(List.mem_replicate.1 hc).2]; rfl

theorem wsOnly_nl_ind (n : Nat) : WsOnly (10 :: ind n) :=
  fun c hc => (List.mem_cons.1 hc).elim (fun h => by rw [h]; rfl) (wsOnly_ind n c)

theorem wsOnly_one (c : UInt8) (h : Json.isWs c = true) : WsOnly [c] :=
  fun d hd => by rw [List.mem_singleton.1 hd]; exact h

theorem renderPretty_leaf (n : Nat) (d : Doc) (h : ∀ kvs, d ≠ .obj kvs) (h' : ∀ xs, d ≠ .arr xs) :
    renderPretty n d = renderJson d := by
  cases d with
  | obj kvs => exact absurd rfl (h kvs)
  | arr xs => exact absurd rfl (h' xs)
  | _ => rfl

def prettyLayout : Layout where
  val := renderPretty
  kvs := renderPrettyKvs
  items := renderPrettyItems
  leaf _ d t h := by cases d <;> cases h <;> rfl
  obj_nil _ := rfl
  arr_nil _ := rfl
  obj_cons n kv more := ⟨[10], 10 :: ind n, wsOnly_one 10 rfl, wsOnly_nl_ind n, by
    simp only [renderPretty, List.append_assoc, List.cons_append, List.nil_append]⟩
  arr_cons n x more := ⟨10 :: ind (n + 1), 10 :: ind n, wsOnly_nl_ind (n + 1), wsOnly_nl_ind n, by
    simp only [renderPretty, List.append_assoc, List.cons_append, List.nil_append]⟩
  kvs_one n k v := ⟨ind (n + 1), [32], wsOnly_ind (n + 1), wsOnly_one 32 rfl, by
    simp only [renderPrettyKvs, List.append_assoc, List.cons_append, List.nil_append]⟩
  kvs_cons n k v kv2 more := ⟨ind (n + 1), [32], [10], wsOnly_ind (n + 1), wsOnly_one 32 rfl, wsOnly_one 10 rfl, by
    simp only [renderPrettyKvs, List.append_assoc, List.cons_append, List.nil_append]⟩
  items_one _ _ := rfl
  items_cons n v v2 more := ⟨10 :: ind (n + 1), wsOnly_nl_ind (n + 1), by
    simp only [renderPrettyItems, List.append_assoc, List.cons_append, List.nil_append]⟩

theorem parse_prettyKvs (N : NumLaws) : (kvs : List (Bytes × Doc)) → kvs ≠ [] → DocTextOKKvs kvs →
    ∀ (n fuel : Nat) (rest : Bytes), jneedKvs kvs ≤ fuel →
    parseMembers fuel (renderPrettyKvs n kvs ++ [10] ++ ind n ++ 125 :: rest) = some (treeOfKvs jsonEnc kvs, rest) :=
  fun kvs hne hok n fuel rest hf => by
    rw [List.append_assoc, List.append_assoc]
    exact (parse_layout prettyLayout N).2.1 kvs hne hok n fuel (10 :: ind n) rest (wsOnly_nl_ind n) hf

theorem parse_prettyItems (N : NumLaws) : (xs : List Doc) → xs ≠ [] → DocTextOKItems xs →
    ∀ (n fuel : Nat) (rest : Bytes), jneedItems xs ≤ fuel →
    parseElements fuel (renderPrettyItems n xs ++ [10] ++ ind n ++ 93 :: rest) = some (treeOfItems jsonEnc xs, rest) :=
  fun xs hne hok n fuel rest hf => by
    rw [List.append_assoc, List.append_assoc]
    exact (parse_layout prettyLayout N).2.2 xs hne hok n fuel (10 :: ind n) rest (wsOnly_nl_ind n) hf

theorem pretty_len_ge :
    (∀ d n, (renderJson d).length ≤ (renderPretty n d).length) ∧
    (∀ kvs n, (renderJsonKvs kvs).length ≤ (renderPrettyKvs n kvs).length) ∧
    (∀ xs n, (renderJsonItems xs).length ≤ (renderPrettyItems n xs).length) :=
  Doc.induct3 (fun _ _ => Nat.le_refl _) (fun _ _ => Nat.le_refl _) (fun _ _ => Nat.le_refl _)
    (fun _ _ => Nat.le_refl _) (fun _ _ => Nat.le_refl _)
    (fun kvs ih n => by
      cases kvs with
      | nil => exact Nat.le_refl _
      | cons kv more =>
        have := ih n
        simp only [renderPretty, renderJson, List.length_cons, List.length_append, List.length_nil]
        omega)
    (fun xs ih n => by
      cases xs with
      | nil => exact Nat.le_refl _
      | cons x more =>
        have := ih n
        simp only [renderPretty, renderJson, List.length_cons, List.length_append, List.length_nil]
        omega)
    (fun _ => Nat.le_refl _)
    (fun k v more ihv ih n => by
      have h1 := ihv (n + 1)
      cases more with
      | nil =>
        simp only [renderJsonKvs, renderPrettyKvs, List.length_cons, List.length_append, List.length_nil]
        omega
      | cons kv2 more =>
        have h2 := ih n
        simp only [renderJsonKvs, renderPrettyKvs, List.length_cons, List.length_append, List.length_nil] at h2 ⊢
        omega)
    (fun _ => Nat.le_refl _)
    (fun v more ihv ih n => by
      have h1 := ihv (n + 1)
      cases more with
      | nil => exact h1
      | cons v2 more =>
        have h2 := ih n
        simp only [renderJsonItems, renderPrettyItems, List.length_cons, List.length_append, List.length_nil] at h2 ⊢
        omega)

theorem prettyKvs_len_ge : (kvs : List (Bytes × Doc)) → ∀ n, (renderJsonKvs kvs).length ≤ (renderPrettyKvs n kvs).length :=
  pretty_len_ge.2.1

theorem prettyItems_len_ge : (xs : List Doc) → ∀ n, (renderJsonItems xs).length ≤ (renderPrettyItems n xs).length :=
  pretty_len_ge.2.2

/-- **the pretty JSON writer's output parses to the same tree** -/
theorem parse_renderPretty (N : NumLaws) (d : Doc) (hok : DocTextOK d) :
    Json.parse (renderPretty 0 d) = some (treeOf jsonEnc d) :=
  prettyLayout.parse N d hok 0 (Nat.le_succ_of_le (Nat.le_trans ((jneed_le N).1 d) (pretty_len_ge.1 d 0)))

end Restli.Codec
