import Restli.Lib.Basic
/-! The bytes of a string literal as a list the kernel can evaluate, the reduction of a fact about all
bytes to 256 cases, and association-list lookup against membership. -/

/- Evaluating `ByteArray.toList` by index is quadratic in the kernel; `bs.data.toList` is linear. -/
theorem ByteArray.toList_loop_eq (bs : ByteArray) (i : Nat) (r : List UInt8) :
    ByteArray.toList.loop bs i r = r.reverse ++ bs.data.toList.drop i := by
  fun_induction ByteArray.toList.loop bs i r with
  | case1 i r h ih =>
    have hd : i < bs.data.size := h
    have e : bs.get! i = bs.data.toList[i] := (getElem!_pos bs.data i hd).trans (Array.getElem_toList hd).symm
    rw [ih, List.reverse_cons, List.append_assoc, List.drop_eq_getElem_cons hd, e]
    rfl
  | case2 i r h =>
    have hi : bs.data.toList.length ≤ i := Nat.le_of_not_lt h
    rw [List.drop_eq_nil_of_le hi, List.append_nil]

theorem ByteArray.toList_eq_data (bs : ByteArray) : bs.toList = bs.data.toList :=
  (ByteArray.toList_loop_eq bs 0 []).trans rfl

namespace Restli

/- Shortcut instances: `simp` asks for these at every `beq_iff_eq` / `beq_self_eq_true` on bytes, and
the default search walks the order classes of `Std` before it reaches `instLawfulBEq`. -/
instance : LawfulBEq UInt8 := inferInstance
instance : LawfulBEq Bytes := inferInstance
instance : ReflBEq UInt8 := inferInstance
instance : ReflBEq Bytes := inferInstance

theorem strBytes_eq (s : String) : strBytes s = s.toUTF8.data.toList :=
  ByteArray.toList_eq_data _

/-- a Boolean fact about single bytes holds of every byte once it holds of the 256 values, which
`decide` can check (`∀ c : UInt8` itself is not decidable) -/
theorem byte_forall (P : UInt8 → Bool) (h : ∀ i : Fin 256, P (UInt8.ofNat i.val) = true) (c : UInt8) :
    P c = true := by
  have := h ⟨c.toNat, c.toNat_lt⟩
  simpa using this

theorem lookup_mem {α β : Type} [BEq α] [LawfulBEq α] {l : List (α × β)} {k : α} {v : β}
    (h : l.lookup k = some v) : (k, v) ∈ l := by
  obtain ⟨l₁, l₂, rfl, _⟩ := List.lookup_eq_some_iff.1 h
  exact List.mem_append_right _ List.mem_cons_self

theorem lookup_of_mem {α β : Type} [BEq α] [LawfulBEq α] {l : List (α × β)} {k : α} {v : β}
    (hn : (l.map Prod.fst).Nodup) (h : (k, v) ∈ l) : l.lookup k = some v := by
  obtain ⟨l₁, l₂, rfl⟩ := List.append_of_mem h
  rw [List.map_append, List.nodup_append] at hn
  exact List.lookup_eq_some_iff.2 ⟨l₁, l₂, rfl, fun p hp =>
    bne_iff_ne.2 fun e => hn.2.2 p.1 (List.mem_map_of_mem hp) k List.mem_cons_self e.symm⟩

/-- the first entry under `seg`, if there is one, is the one looked up -/
theorem lookup_update {α β : Type} [BEq α] [LawfulBEq α] (cs : List (α × β)) (seg : α) (new : β) (s : α) :
    List.lookup s (cs.map (fun e => if e.1 == seg then (seg, new) else e)) =
      if s == seg then (List.lookup seg cs).map (fun _ => new) else List.lookup s cs := by
  induction cs with
  | nil => simp
  | cons e rest ih =>
    obtain ⟨k, v⟩ := e
    rw [List.map_cons]
    by_cases hk : k = seg
    · subst hk
      simp only [beq_self_eq_true, ↓reduceIte, List.lookup_cons, ih]
      cases s == k <;> rfl
    · have hks : (k == seg) = false := beq_false_of_ne hk
      have hsk : (seg == k) = false := beq_false_of_ne (Ne.symm hk)
      simp only [hks, Bool.false_eq_true, ↓reduceIte, List.lookup_cons, ih, hsk]
      by_cases hs : s = seg
      · subst hs; simp only [hsk, beq_self_eq_true, ↓reduceIte]
      · have : (s == seg) = false := beq_false_of_ne hs
        simp only [this, Bool.false_eq_true, ↓reduceIte]

end Restli
