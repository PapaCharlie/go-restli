import Restli.Model.EndToEnd
import Restli.Proofs.Routing
import Restli.Proofs.Tunnel
import Restli.Proofs.SortKeys
import Restli.Proofs.JsonRoundTrip
import Restli.Proofs.JsonDoc
import Restli.Proofs.Bytes
import Restli.Spec.HttpUrl
/-! The vocabulary of C02's statements (first) and the lemmas behind them, in the order of a call: query
string, path, de-tunnelling and routing down to the registered closure, the response, the writers' output.
Property theorems: `Props/C02.lean`. -/
namespace Restli.E2E
open Restli Restli.Codec
open Restli.Routing (Method)

/-- a name/value pair that can be told apart again: the name is non-empty and free of `&` and `=`,
the value is free of `&` -/
def PairClean (e : Bytes × Bytes) : Prop := e.1 ≠ [] ∧ (∀ c ∈ e.1, c ≠ 38 ∧ c ≠ 61) ∧ (∀ c ∈ e.2, c ≠ 38)

instance (e : Bytes × Bytes) : Decidable (PairClean e) := by unfold PairClean; infer_instance

open Restli.Routing in
/-- the node reached from `n` by following the remaining segments (names, collection or not) -/
def descend : Node → List SegSpec → Option Node
  | n, [] => some n
  | n, s :: rest =>
    match findSub (strOf s.name) n.subs with
    | some sub => if sub.isCollection == s.key.isSome then descend sub rest else Option.none
    | Option.none => Option.none

open Restli.Routing in
/-- the node a resource's segments lead to in the registered tree -/
def nodeFor (roots : List Node) : List SegSpec → Option Node
  | [] => Option.none
  | s :: rest =>
    match findSub (strOf s.name) roots with
    | some n => if n.isCollection == s.key.isSome then descend n rest else Option.none
    | Option.none => Option.none

/-- the path segments below the first resource name, given the texts of the keys -/
def restStrs (onEntity : Bool) : List SegSpec → List String → List String
  | [], _ => []
  | [s], ks =>
    (match s.key, onEntity, ks with
    | some _, true, k :: _ => [k]
    | _, _, _ => [])
  | s :: (s' :: rest), ks =>
    (match s.key, ks with
    | some _, k :: ks' => k :: strOf s'.name :: restStrs onEntity (s' :: rest) ks'
    | some _, [] => []
    | Option.none, ks => strOf s'.name :: restStrs onEntity (s' :: rest) ks)

def pathStrs (onEntity : Bool) (segs : List SegSpec) (ks : List String) : List String :=
  match segs with
  | [] => []
  | s :: _ => strOf s.name :: restStrs onEntity segs ks

/-- does the resource's last segment carry a key at this level? -/
def hasKeyAt (onEntity : Bool) (segs : List SegSpec) : Bool :=
  onEntity && ((segs.getLast?).bind (·.key)).isSome

/-- the character a byte stands for in the routing model's strings -/
def ch (c : UInt8) : Char := Char.ofNat c.toNat

open Restli.Tunnel Restli.TunnelSpec Restli.Mime in
/-- the request `newRequest` builds with tunnelling off, as the handler receives it -/
def plainReq (T : Tunnel.Consts) (path : Bytes) (fq : Bool) (q verb rm : Bytes) (contents : Option Bytes) : Tunnel.Req :=
  { method := verb, path := path, forceQuery := fq, rawQuery := q,
    header := baseHdr T rm ++ (if contents.isSome then [((keysOf T).C, [T.ctJson])] else []),
    body := bodyOf contents, requestURI := urlRequestURI path fq q }

/-- a byte that reaches the client unchanged inside an HTTP header field value, wherever it stands:
valid for net/http and neither space nor tab (those are trimmed at the ends) -/
def hdrGood (c : UInt8) : Bool := Mime.validValueByte c && c != 32 && c != 9

open Restli.Routing in
/-- what the theorems assume of the constants of one module generation (decided for `constsV2` in
`Props/C02.lean`) -/
structure ConstsOk (K : Consts) : Prop where
  good : Tunnel.Good K.T
  /-- `MethodNameMapping[m.String()] = m` -/
  names : ∀ m, m ≠ Method.unknown → nameMapping K.R (strOf (sB (methodName K.R m))) = m
  namesNe : ∀ m, m ≠ Method.unknown → sB (methodName K.R m) ≠ []
  /-- the writers sort keys (what the codec round-trip theorems are stated for); a literal of the
  model's `constsV2`, not a regenerated constant -/
  sortKeys : K.sortKeys = true
  /-- a successful call without a status of its own answers 200 -/
  okStatus : K.R.srvInitialStatus = 200
  /-- the header escaper replaces every byte that does not survive in an HTTP header field value
  (control bytes, DEL, the space) and what it writes instead consists of bytes that do -/
  headerCovers : ∀ i : Fin 256, hdrGood (UInt8.ofNat i.val) = false → (K.headerEscapes.lookup (UInt8.ofNat i.val)).isSome = true
  headerWrites : ∀ p ∈ K.headerEscapes, p.2.all hdrGood = true
  /-- the reserved parameter names, as bytes and as the routing model's strings -/
  finderStr : strOf K.pFinder = K.R.paramFinder
  actionStr : strOf K.pAction = K.R.paramAction
  /-- the members of the collection envelope, in the order the sorting writer emits them -/
  elemMeta : bytesLt K.fElements K.fMetadata = true
  metaPaging : bytesLt K.fMetadata K.fPaging = true
  elemPaging : bytesLt K.fElements K.fPaging = true

open Restli.Routing in
/-- the facts a call's method is routed with, given the texts of its path keys -/
def factsOf (r : ResSpec) (texts : List Bytes) : Facts :=
  ⟨r.method.kind, rpathOf r.segs, texts.map strOf,
   if r.method.kind = .finder then some (strOf r.method.name) else Option.none,
   if r.method.kind = .action then some (strOf r.method.name) else Option.none⟩

/-- the query as `receive` sees it -/
def stringQuery (q : Bytes) : List (String × String) := (parseQuery q).map (fun e => (strOf e.1, strOf e.2))

open Restli.Routing in
/-- what the method kind demands of the resource, of the level and of the reserved query parameters —
each clause is what the generated client produces for that kind (`Props/C02.lean` shows it for the
client's own output) -/
structure KindOk (K : Consts) (r : ResSpec) (node : Node) (sq : List (String × String)) : Prop where
  known : r.method.kind ≠ .unknown
  /-- entity-level methods carry the resource's own key, resource-level ones do not -/
  needs : node.isCollection = true → needsEntity r.method.kind = true → hasKeyAt r.method.onEntity r.segs = true
  forbids : node.isCollection = true → forbidsEntity r.method.kind = true → hasKeyAt r.method.onEntity r.segs = false
  /-- on a simple resource the method must be the one verb and `action` parameter stand for -/
  simple : node.isCollection = false →
    simpleMethod (verbOfBytes (verbBytes r.method.kind)) ((lookupLast K.R.paramAction sq).getD "") r.method.kind = r.method.kind
  finder : r.method.kind = .finder →
    (lookupLast K.R.paramFinder sq).getD "" = strOf r.method.name ∧ node.finders.contains (strOf r.method.name) = true
  action : r.method.kind = .action →
    (lookupLast K.R.paramAction sq).getD "" = strOf r.method.name ∧
      node.actions.lookup (strOf r.method.name) = some (hasKeyAt r.method.onEntity r.segs)
  plain : r.method.kind ≠ .finder → r.method.kind ≠ .action → node.methods.contains r.method.kind = true

open Restli.Routing in
/-- the request `receive` looks at, for a call's untunnelled request -/
def clientRoutingReq (K : Consts) (r : ResSpec) (texts : List Bytes) (q : Bytes) : Req :=
  { verb := verbOfBytes (verbBytes r.method.kind),
    headers := [(K.R.methodHeader, strOf (sB (methodName K.R r.method.kind)))],
    path := pathStrs r.method.onEntity r.segs (texts.map strOf),
    query := stringQuery q, decodes := Method.all, implOk := true }

open Restli.Routing in
/-- what a resource description and its registration must agree on (the generator emits both from
one restspec): the method is registered on the node at the level the description says, entity-level
methods exist on collections only, a simple resource has the five methods a simple resource can have -/
structure SpecOk (r : ResSpec) (node : Node) : Prop where
  known : r.method.kind ≠ .unknown
  coll : node.isCollection = (lastKeyTy r.segs).isSome
  needs : node.isCollection = true → needsEntity r.method.kind = true → r.method.onEntity = true
  forbids : node.isCollection = true → forbidsEntity r.method.kind = true → r.method.onEntity = false
  simpleLevel : node.isCollection = false → r.method.onEntity = false
  simpleKinds : node.isCollection = false →
    r.method.kind = .get ∨ r.method.kind = .update ∨ r.method.kind = .delete ∨ r.method.kind = .partial_update ∨
      r.method.kind = .action
  finderReg : r.method.kind = .finder → node.finders.contains (strOf r.method.name) = true
  actionReg : r.method.kind = .action → node.actions.lookup (strOf r.method.name) = some r.method.onEntity
  plainReg : r.method.kind ≠ .finder → r.method.kind ≠ .action → node.methods.contains r.method.kind = true
  nameNe : r.method.kind = .finder ∨ r.method.kind = .action → r.method.name ≠ []

/-- the JSON text a writer emitted parses (strictly) to the tree the writers denote — what C03's
whole-document theorem gives (`jsonText_of`); compared with `encoding/json` and the Lean parser on every run -/
structure JsonText (d : Doc) : Prop where
  parses : Json.parse (renderJson d) = some (treeOf jsonEnc d)
  nonEmpty : (renderJson d).isEmpty = false
  notNull : (renderJson d == nullLit) = false

/-- a header field value that net/http hands to the client as it was written: no CR/LF, no leading
or trailing space or tab, no control byte — and not empty (an empty `X-RestLi-Id` counts as absent) -/
def HeaderSafe (t : Bytes) : Prop := headerOnWire t = some t ∧ t ≠ []

instance (t : Bytes) : Decidable (HeaderSafe t) := by unfold HeaderSafe; infer_instance

/-- the status a create answers with: the implementation's, 201 when it left it at zero -/
def createdStatus (cr : Created) : Nat := if cr.status == 0 then 201 else cr.status

/-- what reading one member of a batch response map needs: the member is not null, its name reads
as a key (path flavour) that the key type's equality finds among the caller's keys — `orig` — and
its value decodes -/
def MemberOk {β : Type} (env : Env) (kt : Ty) (keq : Value → Value → Bool) (callKeys : List Value)
    (dec : Json.JVal → Dec β) (orig : Bytes → Value) (val : Json.JVal → β) (m : Bytes × Json.JVal) : Prop :=
  m.2 ≠ .null ∧
  (∃ kv, ofRes (unmarshalRor2 (pathRCfg env) kt m.1) = .ok kv ∧ callKeys.find? (fun ck => keq ck kv) = some (orig m.1)) ∧
  dec m.2 = .ok (val m.2)

theorem splitOn_ne_nil (sep : UInt8) : ∀ s, splitOn sep s ≠ [] := by
  intro s
  cases s with
  | nil => simp [splitOn]
  | cons c cs =>
    simp only [splitOn]
    split
    · simp
    · split <;> simp

theorem splitOn_noSep (sep : UInt8) : ∀ (x : Bytes), (∀ c ∈ x, c ≠ sep) → splitOn sep x = [x] := by
  intro x h
  induction x with
  | nil => simp [splitOn]
  | cons c cs ih =>
    have hc : (c == sep) = false := beq_eq_false_iff_ne.mpr (h c (List.mem_cons_self ..))
    have ih := ih (fun d hd => h d (List.mem_cons_of_mem _ hd))
    simp [splitOn, ih, hc]

theorem splitOn_append (sep : UInt8) : ∀ (x : Bytes) (rest : Bytes), (∀ c ∈ x, c ≠ sep) →
    splitOn sep (x ++ sep :: rest) = x :: splitOn sep rest := by
  intro x rest h
  induction x with
  | nil =>
    have := splitOn_ne_nil sep rest
    cases h : splitOn sep rest with
    | nil => exact absurd h this
    | cons a b => simp [splitOn, h]
  | cons c cs ih =>
    have hc : (c == sep) = false := beq_eq_false_iff_ne.mpr (h c (List.mem_cons_self ..))
    have ih := ih (fun d hd => h d (List.mem_cons_of_mem _ hd))
    simp only [List.cons_append, splitOn, ih, hc]
    simp

theorem splitOn_joinWith (sep : UInt8) : ∀ (xs : List Bytes), xs ≠ [] → (∀ x ∈ xs, ∀ c ∈ x, c ≠ sep) →
    splitOn sep (joinWith sep xs) = xs := by
  intro xs hne h
  induction xs with
  | nil => exact absurd rfl hne
  | cons x more ih =>
    cases more with
    | nil => simpa [joinWith] using splitOn_noSep sep x (h x (List.mem_singleton.2 rfl))
    | cons y rest =>
      have ih := ih (by simp) (fun z hz => h z (List.mem_cons_of_mem _ hz))
      simp only [joinWith]
      rw [splitOn_append sep x _ (h x (List.mem_cons_self ..)), ih]

theorem cutAt_append (sep : UInt8) : ∀ (k v : Bytes), (∀ c ∈ k, c ≠ sep) → cutAt sep (k ++ sep :: v) = (k, v) := by
  intro k v h
  induction k with
  | nil => simp [cutAt]
  | cons c cs ih =>
    have hc : (c == sep) = false := beq_eq_false_iff_ne.mpr (h c (List.mem_cons_self ..))
    have ih := ih (fun d hd => h d (List.mem_cons_of_mem _ hd))
    simp [cutAt, hc, ih]

/-- `ParseQueryParams` cuts what was joined with `&` and `=` into the pairs that were joined -/
theorem parseQuery_join (ps : List (Bytes × Bytes)) (h : ∀ e ∈ ps, PairClean e) :
    parseQuery (joinWith 38 (ps.map (fun e => e.1 ++ 61 :: e.2))) = ps := by
  cases ps with
  | nil => rfl
  | cons p rest =>
    have hsep : ∀ x ∈ (p :: rest).map (fun e => e.1 ++ 61 :: e.2), ∀ c ∈ x, c ≠ 38 := by
      intro x hx c hc
      obtain ⟨e, he, rfl⟩ := List.mem_map.1 hx
      obtain ⟨_, h1, h2⟩ := h e he
      rcases List.mem_append.1 hc with hc | hc
      · exact (h1 c hc).1
      · rcases List.mem_cons.1 hc with rfl | hc
        · decide
        · exact h2 c hc
    have hfilter : ((p :: rest).map (fun e => e.1 ++ 61 :: e.2)).filter (fun x => !x.isEmpty) =
        (p :: rest).map (fun e => e.1 ++ 61 :: e.2) := by
      apply List.filter_eq_self.2
      intro x hx
      obtain ⟨e, _, rfl⟩ := List.mem_map.1 hx
      cases e.1 <;> simp
    rw [parseQuery, splitOn_joinWith 38 _ (by simp) hsep, hfilter, List.map_map]
    exact (List.map_congr_left fun e he => cutAt_append 61 e.1 e.2 fun c hc => ((h e he).2.1 c hc).2).trans
      (List.map_id _)
theorem parseQuery_joinQuery (ps : List (Bytes × Bytes)) (h : ∀ e ∈ ps, PairClean e) :
    parseQuery (joinQuery ps) = sortByKey ps :=
  parseQuery_join (sortByKey ps) (fun e he => h e ((mem_sortByKey ps e).1 he))

/-- the same for the client's optional query: without parameters there is no `?` and nothing is cut -/
theorem parseQuery_pairs (pairs : Option (List (Bytes × Bytes))) (h : ∀ e ∈ pairs.getD [], PairClean e) :
    parseQuery ((pairs.map joinQuery).getD []) = sortByKey (pairs.getD []) := by
  cases pairs with
  | none => rfl
  | some ps => exact parseQuery_joinQuery ps h

theorem findSub_name (name : String) : ∀ (l : List Routing.Node) (n : Routing.Node),
    Routing.findSub name l = some n → n.name = name := by
  intro l n h
  induction l with
  | nil => simp [Routing.findSub] at h
  | cons m rest ih =>
    simp only [Routing.findSub] at h
    split at h
    · next hm => cases h; simpa using hm
    · exact ih h

open Restli.Routing Restli.Routing.Spec in
theorem locateAt_restStrs (onEntity : Bool) : ∀ (segs : List SegSpec) (n node : Node) (ks : List String) (s : SegSpec)
    (_ : n.name = strOf s.name) (_ : n.isCollection = s.key.isSome)
    (_ : descend n segs = some node) (_ : ks.length = (keyTys onEntity (s :: segs)).length),
    locateAt n (restStrs onEntity (s :: segs) ks) =
      some ⟨node, rpathOf (s :: segs), ks, hasKeyAt onEntity (s :: segs)⟩ := by
  intro segs
  induction segs with
  | nil =>
    intro n node ks s hn hc hd hl
    simp only [descend, Option.some.injEq] at hd
    subst hd
    cases hk : s.key with
    | none =>
      simp only [keyTys, hk, Option.toList, List.length_nil, ite_self] at hl
      have : ks = [] := List.eq_nil_of_length_eq_zero hl
      subst this
      simp [restStrs, hk, locateAt, rpathOf, hasKeyAt, Node.seg, hn, hc]
    | some ty =>
      cases onEntity with
      | false =>
        simp only [keyTys, Bool.false_eq_true, if_false, List.length_nil] at hl
        have : ks = [] := List.eq_nil_of_length_eq_zero hl
        subst this
        simp [restStrs, hk, locateAt, rpathOf, hasKeyAt, Node.seg, hn, hc]
      | true =>
        simp only [keyTys, hk, if_true, Option.toList, List.length_singleton] at hl
        match ks, hl with
        | [k], _ =>
          have hcoll : n.isCollection = true := by rw [hc, hk]; rfl
          simp [restStrs, hk, locateAt, hcoll, rpathOf, hasKeyAt, Node.seg, hn]
  | cons s' rest ih =>
    intro n node ks s hn hc hd hl
    simp only [descend] at hd
    cases hf : findSub (strOf s'.name) n.subs with
    | none => simp [hf] at hd
    | some sub =>
      simp only [hf] at hd
      split at hd
      · next hsub =>
        have hsubn := findSub_name _ _ _ hf
        have hsubc : sub.isCollection = s'.key.isSome := by simpa using hsub
        cases hk : s.key with
        | none =>
          have hcoll : n.isCollection = false := by rw [hc, hk]; rfl
          have hl' : ks.length = (keyTys onEntity (s' :: rest)).length := by
            simpa [keyTys, hk] using hl
          have ih := ih sub node ks s' hsubn hsubc hd hl'
          simp only [restStrs, hk]
          rw [locateAt.eq_def]
          simp only [hcoll, Bool.false_eq_true, if_false, hf, Option.bind_some, ih, Option.map_some, Target.under]
          simp [rpathOf, Node.seg, hn, hcoll, hk, hasKeyAt]
        | some ty =>
          have hcoll : n.isCollection = true := by rw [hc, hk]; rfl
          match ks with
          | [] => simp [keyTys, hk] at hl
          | k :: ks' =>
            have hl' : ks'.length = (keyTys onEntity (s' :: rest)).length := by
              simpa [keyTys, hk] using hl
            have ih := ih sub node ks' s' hsubn hsubc hd hl'
            simp only [restStrs, hk]
            rw [locateAt.eq_def]
            simp only [hcoll, if_true, hf, Option.bind_some, ih, Option.map_some, Target.under]
            simp [rpathOf, Node.seg, hn, hcoll, hk, hasKeyAt]
      · cases hd

open Restli.Routing Restli.Routing.Spec in
theorem locate_pathStrs (roots : List Node) (onEntity : Bool) (segs : List SegSpec) (node : Node) (ks : List String)
    (hnode : nodeFor roots segs = some node) (hl : ks.length = (keyTys onEntity segs).length) :
    locate roots (pathStrs onEntity segs ks) = some ⟨node, rpathOf segs, ks, hasKeyAt onEntity segs⟩ := by
  cases segs with
  | nil => simp [nodeFor] at hnode
  | cons s rest =>
    simp only [nodeFor] at hnode
    cases hf : findSub (strOf s.name) roots with
    | none => simp [hf] at hnode
    | some n =>
      simp only [hf] at hnode
      split at hnode
      · next hc =>
        have hc' : n.isCollection = s.key.isSome := by simpa using hc
        simp only [pathStrs, locate, hf, Option.bind_some]
        exact locateAt_restStrs onEntity rest n node ks s (findSub_name _ _ _ hf) hc' hnode hl
      · cases hnode

/-- the bytes of a string, read off the array (`ByteArray.toList` is quadratic in the kernel) -/
theorem sB_eq (s : String) : sB s = s.toUTF8.data.toList := ByteArray.toList_eq_data _

theorem strOf_toList (b : Bytes) : (strOf b).toList = b.map ch := by
  simp [strOf, ch]

theorem ch_toNat (c : UInt8) : UInt8.ofNat (ch c).toNat = c := by
  have h : c.toNat.isValidChar := Or.inl (by have := c.toNat_lt; omega)
  simp [ch, Char.ofNat, h, Char.toNat, Char.ofNatAux]

theorem bytesOf_strOf (b : Bytes) : bytesOf (strOf b) = b := by
  simp only [bytesOf, strOf_toList, List.map_map]
  exact (List.map_congr_left fun c _ => ch_toNat c).trans (List.map_id b)

theorem noSlash_strOf (b : Bytes) (h : ∀ c ∈ b, c ≠ 47) : Routing.noSlash (strOf b) = true := by
  simp only [Routing.noSlash, strOf_toList, Bool.not_eq_eq_eq_not, Bool.not_true, List.contains_eq_mem,
    decide_eq_false_iff_not, List.mem_map, not_exists, not_and]
  intro c hc e
  exact h c hc (by rw [← ch_toNat c, e]; decide)

theorem strOf_append (a b : Bytes) : strOf (a ++ b) = strOf a ++ strOf b := by
  apply String.ext
  simp [strOf_toList]

theorem joinPath_cons (s : Bytes) (rest : List Bytes) : joinPath (s :: rest) = 47 :: s ++ joinPath rest :=
  List.flatMap_cons

theorem joinPath_append (a b : List Bytes) : joinPath (a ++ b) = joinPath a ++ joinPath b := List.flatMap_append

theorem joinPath_chars : ∀ (segs : List Bytes), segs ≠ [] →
    (joinPath segs).map ch = '/' :: Routing.joinSlash (segs.map strOf) := by
  intro segs hne
  induction segs with
  | nil => exact absurd rfl hne
  | cons s more ih =>
    cases more with
    | nil => simp [joinPath, Routing.joinSlash, strOf_toList, ch]
    | cons s2 rest =>
      have ih := ih (by simp)
      rw [joinPath_cons, List.map_append, ih]
      simp [Routing.joinSlash, strOf_toList, ch]

/-- `strings.Split` of the request path below the prefix gives the path's segments -/
theorem splitSlash_joinPath (segs : List Bytes) (hne : segs ≠ []) (hs : ∀ s ∈ segs, ∀ c ∈ s, c ≠ 47) :
    (Routing.splitSlash (Routing.joinSlash (segs.map strOf))).map String.ofList = segs.map strOf := by
  apply Routing.splitSlash_joinSlash
  · simpa using hne
  · simp only [List.all_map, List.all_eq_true]
    intro s hs'
    exact noSlash_strOf s (hs s hs')

theorem pathSegsB_strs (onEntity : Bool) : ∀ (segs : List SegSpec) (ts : List Bytes),
    (pathSegsB onEntity segs ts).map strOf = pathStrs onEntity segs (ts.map strOf) := by
  intro segs
  induction segs with
  | nil => exact fun _ => rfl
  | cons s more ih =>
    intro ts
    cases more with
    | nil => cases hk : s.key <;> cases onEntity <;> cases ts <;> simp [pathSegsB, pathStrs, restStrs, hk]
    | cons s' rest =>
      cases hk : s.key with
      | none =>
        have := ih ts
        simp only [pathStrs] at this
        simp [pathSegsB, pathStrs, restStrs, hk, this]
      | some ty =>
        cases ts with
        | nil => simp [pathSegsB, pathStrs, restStrs, hk]
        | cons t ts' =>
          have := ih ts'
          simp only [pathStrs] at this
          simp [pathSegsB, pathStrs, restStrs, hk, this]

theorem pathSegsB_ne_nil (onEntity : Bool) (segs : List SegSpec) (ts : List Bytes) (h : segs ≠ []) :
    pathSegsB onEntity segs ts ≠ [] := by
  unfold pathSegsB
  split
  · exact absurd rfl h
  · split <;> simp
  · split <;> simp

/-- what holds of every resource name and of every key text holds of every segment of the path -/
theorem pathSegsB_forall {P : Bytes → Prop} (onEntity : Bool) (segs : List SegSpec) (ts : List Bytes)
    (hn : ∀ s ∈ segs, P s.name) (ht : ∀ t ∈ ts, P t) : ∀ x ∈ pathSegsB onEntity segs ts, P x := by
  fun_induction pathSegsB onEntity segs ts
  · nofun
  · simp only [List.forall_mem_cons] at hn ht ⊢
    exact ⟨hn.1, ht.1, nofun⟩
  · simp only [List.forall_mem_cons] at hn ⊢
    exact ⟨hn.1, nofun⟩
  · next ih =>
    simp only [List.forall_mem_cons] at ht ⊢
    exact ⟨hn _ (List.mem_cons_self ..), ht.1, ih (fun y hy => hn y (List.mem_cons_of_mem _ hy)) ht.2⟩
  · simp only [List.forall_mem_cons] at hn ⊢
    exact ⟨hn.1, nofun⟩
  · next ih =>
    simp only [List.forall_mem_cons]
    exact ⟨hn _ (List.mem_cons_self ..), ih (fun y hy => hn y (List.mem_cons_of_mem _ hy)) ht⟩

open Restli.Tunnel Restli.TunnelSpec Restli.Mime in
/-- Whatever the threshold: the request is built, and what the server's `DecodeTunnelledQuery` makes
of it is the request with tunnelling off (C14: `decode_sent` for the tunnelled case,
`decode_no_override` for the other). -/
theorem detunnelled (T : Tunnel.Consts) (g : Good T) (b : Bytes) (hb : TokenBoundary b) (thr : Nat)
    (path : Bytes) (fq : Bool) (q verb rm : Bytes) (contents : Option Bytes)
    (hverb : verb ≠ []) (hfresh : BoundaryFresh b q (contents.getD [])) (hne : contents ≠ some []) :
    ∃ sent, sentRequest T b thr path fq q verb rm contents = .ok sent ∧
      decodeTunnelledQuery T sent = .ok (plainReq T path fq q verb rm contents) := by
  cases hT : shouldTunnel thr q with
  | true =>
    obtain ⟨sent, orig, h1, h2, h3⟩ := decode_sent T g b hb thr path fq q verb rm contents hT hverb hfresh hne
    rw [sent_plain T g b 0 path fq q verb rm contents (shouldTunnel_zero q)] at h2
    cases h2
    exact ⟨sent, h1, h3⟩
  | false =>
    refine ⟨_, sent_plain T g b thr path fq q verb rm contents hT, decode_no_override T _ ?_⟩
    apply plain_header_no_override T g rm
    cases contents <;> simp

open Restli.Tunnel Restli.Mime in
theorem plainReq_method_header (T : Tunnel.Consts) (g : Good T) (path : Bytes) (fq : Bool) (q verb rm : Bytes)
    (contents : Option Bytes) :
    (plainReq T path fq q verb rm contents).header.get T.hdrRestliMethod = rm := by
  have hk : canonicalKey T.hdrRestliMethod = (keysOf T).RM := rfl
  simp only [plainReq, baseHdr_eq T g rm, Hdr.get, hk]
  have h1 : ((keysOf T).PV == (keysOf T).RM) = false := beq_eq_false_iff_ne.mpr g.pvrm
  simp [Hdr.find, h1]

open Restli.Routing Restli.Routing.Spec in
/-- For a request whose path names a registered resource (`locate`), whose keys and query values are
well-formed and whose `X-RestLi-Method` header names the method `m`: `ServeHTTP`/`receive` settle on
`m` (on a simple resource: on what verb and `action` parameter say, which must be `m`) and hand the
request to the handler registered for it — `lookupHandler` on the located node. Proved from the walk
(`walk_some`) and not from C05's agreement with the specification, which needs `nodesOk` and
`specified`; neither is needed when the header names the method. -/
theorem routeX_named (C : Routing.Consts) (V : String → Bool) (roots : List Node) (req : Req) {t : Target}
    (hloc : locate roots req.path = some t)
    (hkeys : t.keys.all V = true) (hq : (req.query.all fun kv => V kv.2) = true)
    (m : Method) (hm : m ≠ .unknown)
    (hhdr : nameMapping C ((req.headers.lookup C.methodHeader).getD "") = m)
    (hneeds : t.node.isCollection = true → needsEntity m = true → t.hasKey = true)
    (hforbids : t.node.isCollection = true → forbidsEntity m = true → t.hasKey = false)
    (hsimple : t.node.isCollection = false →
      simpleMethod req.verb ((lookupLast C.paramAction req.query).getD "") m = m) :
    routeX C V roots req =
      match lookupHandler C t.node t.rpath t.keys t.hasKey m
          ((lookupLast C.paramFinder req.query).getD "") ((lookupLast C.paramAction req.query).getD "") with
      | .ok f o => .routed f o t.hasKey
      | .errResp st => .errResp st := by
  obtain ⟨s, rest, sub, hp, hf, hloc⟩ := locate_eq_some hloc
  have hw := walk_some C V sub rest t hloc [] [] s
  simp only [hkeys, if_true, List.nil_append] at hw
  simp only [routeX, hp, hf, hw, resolve, hq, Bool.not_true, Bool.false_eq_true, if_false, hhdr, resolveWith]
  cases hc : t.node.isCollection with
  | true =>
    have h1 : (needsEntity m && !t.hasKey) = false := by simpa using hneeds hc
    have h2 : (forbidsEntity m && t.hasKey) = false := by simpa using hforbids hc
    simp only [if_true, hm, if_false, checkEntity, h1, h2, Bool.false_eq_true, finish]
    cases lookupHandler C t.node t.rpath t.keys t.hasKey m _ _ <;> rfl
  | false =>
    simp only [Bool.false_eq_true, if_false, locateAt_simple_nokey sub rest t hloc hc, hsimple hc, finish]
    cases lookupHandler C t.node t.rpath t.keys false m _ _ <;> rfl

theorem verbBytes_ne_nil (m : Method) : verbBytes m ≠ [] := by
  unfold verbBytes
  split <;> decide +kernel

theorem normalisePrefix_noSlash (p : String) (h : p.toList.getLast? ≠ some '/') :
    Routing.normalisePrefix p = p ++ "/" := by
  unfold Routing.normalisePrefix
  by_cases hp : p = ""
  · subst hp; decide
  · simp [hp, h]

theorem factsMatch_factsOf (r : ResSpec) (texts : List Bytes) : factsMatch r (factsOf r texts) = true := by
  simp only [factsMatch, factsOf, beq_self_eq_true, Bool.true_and]
  split <;> simp_all

open Restli.Routing Restli.Tunnel in
/-- an untunnelled request whose path is the server's prefix followed by slash-free segments, as
`receive` looks at it: the path split into those segments, method header and query as written -/
theorem routingReq_plain (K : Consts) (hK : ConstsOk K) (cfg : Cfg) (segs : List Bytes) (hne : segs ≠ [])
    (hclean : ∀ s ∈ segs, ∀ c ∈ s, c ≠ 47) (hpfx : (strOf cfg.pfx).toList.getLast? ≠ some '/')
    (fq : Bool) (q verb rm : Bytes) (body : Option Bytes) :
    routingReq K cfg (plainReq K.T (cfg.pfx ++ joinPath segs) fq q verb rm body) =
      some { verb := verbOfBytes verb, headers := [(K.R.methodHeader, strOf rm)], path := segs.map strOf,
             query := stringQuery q, decodes := Method.all, implOk := true } := by
  have hstrip : stripPrefix (normalisePrefix (strOf cfg.pfx)).toList (strOf (cfg.pfx ++ joinPath segs)).toList =
      some (joinSlash (segs.map strOf)) := by
    rw [normalisePrefix_noSlash _ hpfx, strOf_append]
    simp only [String.toList_append, strOf_toList (joinPath _), joinPath_chars _ hne]
    rw [slash_toList]
    simpa using stripPrefix_append ((strOf cfg.pfx).toList ++ ['/']) (joinSlash (segs.map strOf))
  simp only [routingReq]
  rw [show (plainReq K.T (cfg.pfx ++ joinPath segs) fq q verb rm body).path = cfg.pfx ++ joinPath segs from rfl, hstrip]
  simp only [plainReq_method_header K.T hK.good, splitSlash_joinPath _ hne hclean, stringQuery]
  rfl
open Restli.Routing in
/-- `ServeHTTP`/`receive` route the request of a call to the
handler registered for the call's method on the resource its path names, with the key texts as entity
keys — for every resource shape, method kind and key text. -/
theorem routeX_client {K : Consts} (hK : ConstsOk K) {roots : List Node} {r : ResSpec} {node : Node}
    (hnode : nodeFor roots r.segs = some node)
    {texts : List Bytes} (hlen : texts.length = (keyTys r.method.onEntity r.segs).length)
    (htexts : ∀ t ∈ texts, validateRor2Input (strOf t) = true)
    {q : Bytes} (hqv : ((stringQuery q).all fun kv => validateRor2Input kv.2) = true)
    (hkind : KindOk K r node (stringQuery q)) :
    routeX K.R validateRor2Input roots (clientRoutingReq K r texts q) =
      .routed (factsOf r texts) (hasKeyAt r.method.onEntity r.segs) (hasKeyAt r.method.onEntity r.segs) := by
  have hloc := locate_pathStrs roots r.method.onEntity r.segs node (texts.map strOf) hnode (by simpa using hlen)
  have hroute := routeX_named K.R validateRor2Input roots (clientRoutingReq K r texts q) hloc
    (by simpa [List.all_map] using htexts)
    hqv r.method.kind hkind.known
    (by simp [clientRoutingReq, hK.names _ hkind.known])
    hkind.needs hkind.forbids hkind.simple
  dsimp only [clientRoutingReq] at hroute ⊢
  rw [hroute]
  by_cases hf : r.method.kind = .finder
  · obtain ⟨h1, h2⟩ := hkind.finder hf
    simp [lookupHandler, factsOf, hf, h1, List.contains_iff_mem.1 h2]
  · by_cases ha : r.method.kind = .action
    · obtain ⟨h1, h2⟩ := hkind.action ha
      simp [lookupHandler, factsOf, ha, h1, h2]
    · simp [lookupHandler, factsOf, hf, ha, List.contains_iff_mem.1 (hkind.plain hf ha)]

open Restli.Routing Restli.Tunnel in
/-- The request reaches the closure registered for the call's method, with the client's own bytes. For every registered resource shape (`nodeFor`), method kind (`KindOk`), texts of the path
keys and query, context path and tunnelling threshold: whatever the client put on the wire, the
server de-tunnels it to the untunnelled request (C14), splits its path into exactly the resource
names and key texts, routes it (`ServeHTTP`, `receive`) to the method the call names — never to
another one — and runs that method's decoders on the client's key texts, raw query and body. -/
theorem serverSees_delivered {K : Consts} (hK : ConstsOk K) (env : Env) {roots : List Node} (cfg : Cfg)
    {r : ResSpec} {node : Node} (hnode : nodeFor roots r.segs = some node)
    {texts : List Bytes} (hlen : texts.length = (keyTys r.method.onEntity r.segs).length)
    (hnames : ∀ s ∈ r.segs, ∀ c ∈ s.name, c ≠ 47)
    (htexts : ∀ t ∈ texts, (∀ c ∈ t, c ≠ 47) ∧ validateRor2Input (strOf t) = true)
    {q : Bytes} (hqv : ((stringQuery q).all fun kv => validateRor2Input kv.2) = true)
    (hkind : KindOk K r node (stringQuery q))
    (hpfx : (strOf cfg.pfx).toList.getLast? ≠ some '/')
    (fq : Bool) {body : Option Bytes}
    (hb : TokenBoundary cfg.boundary) (hfresh : TunnelSpec.BoundaryFresh cfg.boundary q (body.getD []))
    (hbody : body ≠ some []) :
    ∃ sent, sentRequest K.T cfg.boundary cfg.threshold (cfg.pfx ++ joinPath (pathSegsB r.method.onEntity r.segs texts)) fq q
        (verbBytes r.method.kind) (sB (methodName K.R r.method.kind)) body = .ok sent ∧
      serverSees K env roots cfg r sent =
        afterRouting K env r (factsOf r texts)
          (plainReq K.T (cfg.pfx ++ joinPath (pathSegsB r.method.onEntity r.segs texts)) fq q
            (verbBytes r.method.kind) (sB (methodName K.R r.method.kind)) body) := by
  obtain ⟨sent, hsent, hdec⟩ := detunnelled K.T hK.good cfg.boundary hb cfg.threshold
    (cfg.pfx ++ joinPath (pathSegsB r.method.onEntity r.segs texts)) fq q (verbBytes r.method.kind)
    (sB (methodName K.R r.method.kind)) body (verbBytes_ne_nil _) hfresh hbody
  refine ⟨sent, hsent, ?_⟩
  have hsegs : r.segs ≠ [] := by
    intro e; rw [e] at hnode; simp [nodeFor] at hnode
  have hpath := routingReq_plain K hK cfg _ (pathSegsB_ne_nil r.method.onEntity r.segs texts hsegs)
    (pathSegsB_forall r.method.onEntity r.segs texts hnames fun t ht => (htexts t ht).1)
    hpfx
  have hroute := routeX_client hK hnode hlen (fun t ht => (htexts t ht).2) hqv hkind
  unfold clientRoutingReq at hroute
  simp only [serverSees, hdec, hpath, pathSegsB_strs, hroute, factsMatch_factsOf, Bool.not_true, Bool.false_eq_true, if_false,
    bne_self_eq_false, Bool.and_false]

theorem strOf_injective {a b : Bytes} (h : strOf a = strOf b) : a = b := by
  have := congrArg bytesOf h
  simpa [bytesOf_strOf] using this

/-- in a query that `ParseQueryParams` cuts into the sorted pairs `ps`, a parameter of `ps` is what
`receive` finds under its name -/
theorem lookup_client_pair (q : Bytes) (ps : List (Bytes × Bytes)) (hq : parseQuery q = sortByKey ps)
    (hn : ((sortByKey ps).map (·.1)).Nodup) (k v : Bytes) (hm : (k, v) ∈ ps) :
    Routing.lookupLast (strOf k) (stringQuery q) = some (strOf v) := by
  -- distinct names stay distinct as strings
  have hn' : (((sortByKey ps).map fun e => (strOf e.1, strOf e.2)).map (·.1)).Nodup := by
    unfold List.Nodup at hn ⊢
    rw [List.pairwise_map] at hn
    rw [List.map_map, List.pairwise_map]
    exact hn.imp fun h e => h (strOf_injective e)
  rw [stringQuery, hq, Routing.lookupLast_eq_lookup _ _ hn']
  exact lookup_of_mem hn' (List.mem_map.2 ⟨(k, v), (mem_sortByKey ps (k, v)).2 hm, rfl⟩)

/-- …and a name that is not in `ps` is absent -/
theorem lookup_client_absent (q : Bytes) (ps : List (Bytes × Bytes)) (hq : parseQuery q = sortByKey ps) (k : Bytes)
    (hk : ∀ e ∈ ps, e.1 ≠ k) :
    Routing.lookupLast (strOf k) (stringQuery q) = Option.none := by
  rw [stringQuery, hq]
  apply Routing.lookupLast_none
  intro e he
  obtain ⟨x, hx, rfl⟩ := List.mem_map.1 he
  exact beq_eq_false_iff_ne.mpr fun hek => hk x ((mem_sortByKey ps x).1 hx) (strOf_injective hek)

theorem hasKeyAt_eq (onEntity : Bool) (segs : List SegSpec) :
    hasKeyAt onEntity segs = (onEntity && (lastKeyTy segs).isSome) := rfl

/-- the verb `receive` reads off the wire is the verb the client wrote for the method kind -/
theorem verbOfBytes_verbBytes (m : Method) : verbOfBytes (verbBytes m) =
    match m with
    | .get | .batch_get | .get_all | .finder => .GET
    | .update | .batch_update => .PUT
    | .delete | .batch_delete => .DELETE
    | _ => .POST := by
  cases m <;> decide +kernel

/-- the generated client writes the finder name under `q` and the action name under `action` -/
theorem queryPairs_reserved {K : Consts} {env : Env} {r : ResSpec} {c : Call} {pairs : Option (List (Bytes × Bytes))}
    (h : queryPairs K env r c = some pairs)
    (hne : r.method.kind = .finder ∨ r.method.kind = .action → r.method.name ≠ [])
    (hesc : r.method.kind = .finder ∨ r.method.kind = .action → K.queryEsc r.method.name = r.method.name) :
    (r.method.kind = .finder → (K.pFinder, r.method.name) ∈ pairs.getD []) ∧
    (r.method.kind = .action → (K.pAction, r.method.name) ∈ pairs.getD []) := by
  constructor
  · intro hk
    have hstr : ror2Str K.queryEsc r.method.name = r.method.name := by
      simp [ror2Str, List.isEmpty_eq_false_iff.2 (hne (Or.inl hk)), hesc (Or.inl hk)]
    simp only [queryPairs, hk] at h
    split at h
    · cases h; simp
    · simp only [Option.map_eq_some_iff] at h
      obtain ⟨ps, _, rfl⟩ := h
      simp [hstr]
  · intro hk
    simp only [queryPairs, hk, Option.some.injEq] at h
    subst h; simp

theorem keyTexts_length {K : Consts} {env : Env} {tys : List Ty} {ks : List Value} {ts : List Bytes}
    (h : keyTexts K env tys ks = some ts) : ts.length = tys.length := by
  fun_induction keyTexts K env tys ks generalizing ts
  · cases h; rfl
  · next _ ts' h1 _ ih => cases h; simp [ih h1]
  · simp_all
  · cases h

theorem clientEncode_eq {K : Consts} {env : Env} {r : ResSpec} {c : Call} {texts : List Bytes}
    {pairs : Option (List (Bytes × Bytes))} {bodyD : Option Doc}
    (ht : keyTexts K env (keyTys r.method.onEntity r.segs) c.keys = some texts)
    (hp : queryPairs K env r c = some pairs) (hb : bodyDoc K env r c = some bodyD) :
    clientEncode K env r c = some
      { verb := verbBytes r.method.kind, restliMethod := sB (methodName K.R r.method.kind),
        root := (r.segs.head?.map (·.name)).getD [], rp := joinPath (pathSegsB r.method.onEntity r.segs texts),
        query := pairs.map joinQuery, body := bodyD.map renderJson } := by
  simp [clientEncode, pathFrom, queryOf, ht, hp, hb]

open Restli.Tunnel in
/-- the closure's decoding of an untunnelled request, part by part: the key texts, the pairs
`ParseQueryParams` cuts the query into (for the client's query: the sorted pairs it joined,
`parseQuery_pairs`), the body bytes -/
theorem decodeInvocation_client (K : Consts) (env : Env) (r : ResSpec) (texts : List Bytes)
    {q : Bytes} {ps : List (Bytes × Bytes)} (hq : parseQuery q = ps)
    (path : Bytes) (fq : Bool) (verb rm : Bytes) (body : Option Bytes) :
    decodeInvocation K env r (factsOf r texts) (plainReq K.T path fq q verb rm body) =
      (decodeKeys env (keyTys r.method.onEntity r.segs) texts).bind (fun keys =>
        (decodeQuery K env r ps).bind (fun qp =>
          (decodeBody K env r qp.1 qp.2 (body.getD [])).bind (fun pb => .ok ⟨keys, pb.1, pb.2⟩))) := by
  have hk : (factsOf r texts).keys.map bytesOf = texts := by
    simp [factsOf, Function.comp_def, bytesOf_strOf]
  have hb : bodyBytes (plainReq K.T path fq q verb rm body).body = body.getD [] := by
    cases body with
    | none => rfl
    | some x => cases x <;> rfl
  subst hq
  simp only [decodeInvocation, hk, hb]
  rfl

theorem parseJson_text (d : Doc) (h : JsonText d) : parseJson (renderJson d) = .ok (treeOf jsonEnc d) := by
  simp [parseJson, h.parses, h.nonEmpty, h.notNull]

theorem toOpt_eq_some {ε α : Type} {e : Except ε α} {a : α} (h : toOpt e = some a) : e = .ok a := by
  cases e with
  | ok x => exact congrArg _ (Option.some.inj h)
  | error _ => cases h

/-- what the client's generated unmarshaler reads from the tree of a value the server's writer
encoded: the value, normalised (C01's JSON tree round trip `json_roundtrip_tree`) -/
theorem treeRead_encoded {K : Consts} (hK : ConstsOk K) {env : Env} (F : FloatLaws) (C : ConvLaws) (S : SchemaOK env)
    {scopeW : List Bytes} (scopeR : List Codec.Seg) (top : Bool) {ty : Ty} {v : Value} {d : Doc} (hv : ValOK v)
    (henc : encode (wcfg K env) encFuel scopeW ty v = .ok d) :
    ofTRes' (treeRead (jsonTCfg env 0) top scopeR ty (treeOf jsonEnc d)) = .ok (norm env encFuel ty v) := by
  have hcfg : wcfg K env = (jsonCtx env F C S).cfg := by simp [wcfg, jsonCtx, RTCtx.cfg, hK.sortKeys]
  rw [jsonTCfg, json_roundtrip_tree env F C S 0 encFuel scopeW scopeR top ty v d hv (hcfg ▸ henc)]
  rfl

theorem jsonLeaf_ne_null : ∀ x, jsonEnc.leaf x ≠ .null := by
  intro x
  cases x with
  | f64 b =>
    simp only [jsonEnc, jsonTreeLeaf]
    split
    · simp
    · split <;> simp
  | _ => simp [jsonEnc, jsonTreeLeaf]

theorem ne_of_bytesLt {a b : Bytes} (h : bytesLt a b = true) : a ≠ b := by
  intro e; subst e; rw [bytesLt_irrefl] at h; cases h

/-- the elements of a collection response, read back one by one (C01's JSON tree round trip applied
to each) -/
theorem decodeArr_items {K : Consts} (hK : ConstsOk K) {env : Env} (F : FloatLaws) (C : ConvLaws) (S : SchemaOK env)
    {ty : Ty} (scopeR : List Codec.Seg) {vs : List Value} {ds : List Doc} (hv : ∀ v ∈ vs, ValOK v)
    (h : encElems K env ty vs = some ds) :
    decodeArr (fun x => ofTRes' (treeRead (jsonTCfg env 0) false scopeR ty x)) (treeOfItems jsonEnc ds) =
      .ok (vs.map (norm env encFuel ty)) := by
  unfold encElems at h
  fun_induction mapM' _ vs generalizing ds
  · cases h; rfl
  · next v vs d ds' h1 h2 ih =>
    cases h
    simp only [treeOfItems, decodeArr, List.map_cons, Dec.bind,
      treeRead_encoded hK F C S scopeR false (hv v (List.mem_cons_self ..)) (toOpt_eq_some h2),
      ih (fun x hx => hv x (List.mem_cons_of_mem _ hx)) h1]
  · simp_all

/-- one map (`results`, `statuses` or `errors`) of a batch response: every member is filed under the
caller's own key its name is equal to, with its decoded value — as many entries as members, in the
members' order, none lost, none filed twice -/
theorem decodeBatchMap_members {β : Type} (env : Env) (kt : Ty) (keq : Value → Value → Bool) (callKeys : List Value)
    (dec : Json.JVal → Dec β) (orig : Bytes → Value) (val : Json.JVal → β) :
    ∀ (ms : List (Bytes × Json.JVal)) (seen : List Value),
      (∀ m ∈ ms, MemberOk env kt keq callKeys dec orig val m) →
      (ms.map (fun m => orig m.1)).Pairwise (fun a b => keq a b = false) →
      (∀ s ∈ seen, ∀ m ∈ ms, keq s (orig m.1) = false) →
      decodeBatchMap env kt keq callKeys dec seen ms = .ok (ms.map (fun m => (orig m.1, val m.2))) := by
  intro ms
  induction ms with
  | nil => simp [decodeBatchMap]
  | cons m rest ih =>
    intro seen hm hp hs
    obtain ⟨k, jv⟩ := m
    obtain ⟨⟨hnn, ⟨kv, hkv, hfind⟩, hdec⟩, hm'⟩ := List.forall_mem_cons.1 hm
    simp only [List.map_cons, List.pairwise_cons] at hp
    have hseen : seen.any (fun s => keq s (orig k)) = false :=
      List.any_eq_false.2 fun s hs' => by simp [hs s hs' (k, jv) (List.mem_cons_self ..)]
    have ih := ih (orig k :: seen) hm' hp.2
      (List.forall_mem_cons.2 ⟨fun m hm' => hp.1 _ (List.mem_map.2 ⟨m, hm', rfl⟩),
        fun s hs' m hm' => hs s hs' m (List.mem_cons_of_mem _ hm')⟩)
    -- a null member would be skipped; every other kind of member takes the same branch
    cases jv with
    | null => exact absurd rfl hnn
    | _ =>
      simp only [decodeBatchMap, hkv, Dec.bind, hfind, hseen, Bool.false_eq_true, if_false, hdec, ih, List.map_cons]

/-- `JsonText` holds for every document whose strings and keys are valid UTF-8 (C03) -/
theorem jsonText_of (N : NumLaws) (d : Doc) (hok : DocTextOK d) : JsonText d where
  parses := parse_renderJson N d hok
  nonEmpty := List.isEmpty_eq_false_iff.2 (List.ne_nil_of_length_pos (renderJson_len_pos N d))
  notNull := by
    -- `null` parses to the null tree, which no document denotes
    apply beq_eq_false_iff_ne.mpr
    intro e
    have hp := parse_renderJson N d hok
    rw [e, show Json.parse nullLit = some .null from rfl] at hp
    exact treeOf_ne_null jsonEnc jsonLeaf_ne_null d (Option.some.inj hp).symm

/-- the table-driven escaper maps nothing but dots to dots: a safe byte stays as it is, any other
becomes `%XX` -/
theorem escapeWith_dots (safe : List UInt8) : ∀ (b : Bytes) (n : Nat),
    Escape.escapeWith safe b = List.replicate n 46 → b = List.replicate n 46 := by
  intro b
  induction b with
  | nil => exact fun _ h => by simpa [Escape.escapeWith] using h
  | cons c cs ih =>
    intro n h
    rw [Escape.escapeWith_cons] at h
    unfold Escape.escOne at h
    cases n with
    | zero => split at h <;> simp [Escape.pct] at h
    | succ n =>
      split at h
      · simp only [List.replicate_succ, List.cons_append, List.nil_append, List.cons.injEq] at h
        rw [h.1, ih n h.2, List.replicate_succ]
      · simp [Escape.pct, List.replicate_succ] at h
/-- the first byte of escaped text is the first byte of the text or `%` -/
theorem escapeWith_head (safe : List UInt8) (c : UInt8) (cs : Bytes) :
    ∃ tl, Escape.escapeWith safe (c :: cs) = c :: tl ∨ Escape.escapeWith safe (c :: cs) = 37 :: tl := by
  rw [Escape.escapeWith_cons]
  unfold Escape.escOne
  split
  · exact ⟨_, Or.inl rfl⟩
  · exact ⟨Escape.hexUpper (c.toNat / 16) :: Escape.hexUpper (c.toNat % 16) :: Escape.escapeWith safe cs,
      Or.inr (by simp [Escape.pct])⟩

theorem not_dots_of_head (t : Bytes) (c : UInt8) (tl : Bytes) (h : t = c :: tl) (hc : c ≠ 46) :
    t ≠ [46] ∧ t ≠ [46, 46] := by
  subst h
  constructor <;> (intro e; simp only [List.cons.injEq] at e; exact hc e.1)

/-- **What the path writer writes for a key is never `.` or `..`**: for every key
document — strings are special-cased, every other value starts with a byte that is not a dot -/
theorem renderRor2Path_not_dot (N : NumLaws) (safe : List UInt8) (d : Doc) :
    renderRor2Path (Escape.escapeWith safe) d ≠ [46] ∧ renderRor2Path (Escape.escapeWith safe) d ≠ [46, 46] := by
  -- the two dot strings are special-cased; the escaper maps nothing else to them
  have strCase : ∀ b : Bytes, renderRor2Path (Escape.escapeWith safe) (.str b) ≠ [46] ∧
      renderRor2Path (Escape.escapeWith safe) (.str b) ≠ [46, 46] := by
    intro b
    simp only [renderRor2Path]
    by_cases h1 : b = [46]
    · subst h1; simp
    · by_cases h2 : b = [46, 46]
      · subst h2; simp
      · simp only [beq_eq_false_iff_ne.mpr h1, beq_eq_false_iff_ne.mpr h2, Bool.false_eq_true, if_false, ror2Str]
        split
        · exact ⟨by decide, by decide⟩
        · exact ⟨fun e => h1 (escapeWith_dots safe b 1 e), fun e => h2 (escapeWith_dots safe b 2 e)⟩
  have digitOr45 : ∀ c : UInt8, (Strconv.isDigit c = true ∨ c = 45) → c ≠ 46 := by
    intro c hc h
    subst h
    revert hc
    decide
  cases d with
  | str b | bytes b => exact strCase b
  | int v =>
    have := Strconv.formatInt_clean v
    cases hfi : Strconv.formatInt v with
    | nil => exact absurd hfi this.1
    | cons c cs =>
      exact not_dots_of_head _ c cs (by simp [renderRor2Path, renderRor2, hfi]) (digitOr45 c (this.2 c (by rw [hfi]; simp)))
  | f64 b =>
    simp only [renderRor2Path, renderRor2, ror2Float]
    split
    · exact ⟨by decide, by decide⟩
    · split
      · split <;> exact ⟨by decide, by decide⟩
      · next h2 h1 =>
        obtain ⟨c, cs, hc, hd⟩ := N.float_head b (by simpa using h2) (by simpa using h1)
        rw [hc]
        obtain ⟨tl, htl | htl⟩ := escapeWith_head safe c cs
        · exact not_dots_of_head _ c tl htl (digitOr45 c hd)
        · exact not_dots_of_head _ 37 tl htl (by decide)
  | bool b =>
    cases b
    · exact not_dots_of_head _ 102 _ rfl (by decide)
    · exact not_dots_of_head _ 116 _ rfl (by decide)
  | obj kvs => exact not_dots_of_head _ 40 _ rfl (by decide)
  | arr xs => exact not_dots_of_head _ 76 _ rfl (by decide)

theorem keyTexts_not_dot {K : Consts} (N : NumLaws) {env : Env} {tys : List Ty} {ks : List Value} {ts : List Bytes}
    (h : keyTexts K env tys ks = some ts) : ∀ t ∈ ts, t ≠ [46] ∧ t ≠ [46, 46] := by
  fun_induction keyTexts K env tys ks generalizing ts
  · cases h; simp
  · next _ ts' h1 h2 ih =>
    cases h
    intro x hx
    rcases List.mem_cons.1 hx with rfl | hx
    · simp only [pathKeyText, Option.map_eq_some_iff] at h2
      obtain ⟨d, _, rfl⟩ := h2
      exact renderRor2Path_not_dot N K.pathSafe d
    · exact ih h1 x hx
  · simp_all
  · cases h

open Restli.HttpUrlSpec in
/-- splitting a path of slash-free segments at `/` gives an empty first piece and the segments -/
theorem segmentsOf_joinPath : ∀ (segs : List Bytes), (∀ s ∈ segs, ∀ c ∈ s, c ≠ 47) →
    segmentsOf (joinPath segs) = [] :: segs := by
  intro segs h
  induction segs with
  | nil => simp [joinPath, segmentsOf]
  | cons s rest ih =>
    have ih := ih (fun x hx => h x (List.mem_cons_of_mem _ hx))
    have hs := h s (List.mem_cons_self ..)
    have aux : ∀ (x : Bytes), (∀ c ∈ x, c ≠ 47) → segmentsOf (x ++ joinPath rest) = x :: rest := by
      intro x hx
      induction x with
      | nil => exact ih
      | cons c cs ihx =>
        have hc : (c == 47) = false := beq_eq_false_iff_ne.mpr (hx c (List.mem_cons_self ..))
        have := ihx (fun d hd => hx d (List.mem_cons_of_mem _ hd))
        simp only [List.cons_append, segmentsOf, hc, Bool.false_eq_true, if_false, this]
    simp only [joinPath_cons, List.cons_append, segmentsOf, beq_self_eq_true, if_true, aux s hs]

open Restli.HttpUrlSpec in
/-- C15's guard 1 for a path all of whose segments are slash-free and none of which is a dot segment -/
theorem noDotSegments_joinPath (segs : List Bytes)
    (h : ∀ s ∈ segs, (∀ c ∈ s, c ≠ 47) ∧ s ≠ [46] ∧ s ≠ [46, 46]) : NoDotSegments (joinPath segs) := by
  unfold NoDotSegments
  rw [segmentsOf_joinPath segs fun s hs => (h s hs).1]
  intro s hs
  rcases List.mem_cons.1 hs with rfl | hs'
  · exact ⟨by decide, by decide⟩
  · exact (h s hs').2

theorem replaceWith_good (pairs : List (UInt8 × Bytes))
    (hcov : ∀ i : Fin 256, hdrGood (UInt8.ofNat i.val) = false → (pairs.lookup (UInt8.ofNat i.val)).isSome = true)
    (hw : ∀ p ∈ pairs, p.2.all hdrGood = true) (b : Bytes) :
    (Escape.replaceWith pairs b).all hdrGood = true := by
  rw [List.all_eq_true]
  intro c hc
  obtain ⟨x, _, hc⟩ := List.mem_flatMap.1 hc
  rw [Escape.replOne] at hc
  split at hc
  · next r hl => exact List.all_eq_true.1 (hw _ (lookup_mem hl)) c hc
  · next hl =>
    -- a byte that has no replacement is one the header keeps
    rw [List.mem_singleton.1 hc]
    cases hg : hdrGood x with
    | true => rfl
    | false =>
      have := hcov ⟨x.toNat, x.toNat_lt⟩ (by simpa using hg)
      simp only [UInt8.ofNat_toNat, hl] at this
      cases this

theorem digit_good (c : UInt8) (hd : Strconv.isDigit c = true) : hdrGood c = true := by
  have := byte_forall (fun c => !(Strconv.isDigit c) || hdrGood c) (by decide +kernel) c
  simpa [hd] using this

theorem renderRor2_good_all (esc : Bytes → Bytes) (hesc : ∀ b, (esc b).all hdrGood = true) :
    (∀ d, ∀ c ∈ renderRor2 esc d, hdrGood c = true) ∧ (∀ kvs, ∀ c ∈ renderRor2Kvs esc kvs, hdrGood c = true) ∧
      (∀ xs, ∀ c ∈ renderRor2Items esc xs, hdrGood c = true) :=
  renderRor2_forall esc (hdrGood · = true) (fun b => List.all_eq_true.1 (hesc b)) digit_good (by decide) (by decide)

/-- every byte the header-flavour writer emits survives in an HTTP header field value -/
theorem renderRor2_good (esc : Bytes → Bytes) (hesc : ∀ b, (esc b).all hdrGood = true) :
    (d : Doc) → (renderRor2 esc d).all hdrGood = true :=
  fun d => List.all_eq_true.2 ((renderRor2_good_all esc hesc).1 d)
theorem renderRor2Kvs_good (esc : Bytes → Bytes) (hesc : ∀ b, (esc b).all hdrGood = true) :
    (kvs : List (Bytes × Doc)) → (renderRor2Kvs esc kvs).all hdrGood = true :=
  fun kvs => List.all_eq_true.2 ((renderRor2_good_all esc hesc).2.1 kvs)
theorem renderRor2Items_good (esc : Bytes → Bytes) (hesc : ∀ b, (esc b).all hdrGood = true) :
    (xs : List Doc) → (renderRor2Items esc xs).all hdrGood = true :=
  fun xs => List.all_eq_true.2 ((renderRor2_good_all esc hesc).2.2 xs)

theorem dropWhile_of_none {α : Type} (p : α → Bool) : ∀ (l : List α), (∀ a ∈ l, p a = false) → l.dropWhile p = l
  | [], _ => rfl
  | a :: as, h => by simp [List.dropWhile, h a (List.mem_cons_self ..)]

/-- text made of such bytes reaches the client as it was written -/
theorem headerOnWire_good (t : Bytes) (h : t.all hdrGood = true) : headerOnWire t = some t := by
  -- `hdrGood` is `validValueByte` without space and tab; CR and LF are not valid value bytes
  have facts : ∀ c ∈ t, Mime.validValueByte c = true ∧ (c == 32 || c == 9) = false ∧ (c == 10 || c == 13) = false := by
    intro c hc
    have hg := List.all_eq_true.mp h c hc
    simp only [hdrGood, Bool.and_eq_true, bne_iff_ne, ne_eq] at hg
    refine ⟨hg.1.1, by simp [hg.1.2, hg.2], ?_⟩
    simp only [Bool.or_eq_false_iff, beq_eq_false_iff_ne]
    constructor
    · rintro rfl; exact absurd hg.1.1 (by decide)
    · rintro rfl; exact absurd hg.1.1 (by decide)
  have hmap : t.map (fun c => if c == 10 || c == 13 then 32 else c) = t :=
    (List.map_congr_left fun c hc => by simp [(facts c hc).2.2]).trans (List.map_id t)
  have htrim1 := dropWhile_of_none (fun c => c == 32 || c == 9) t fun c hc => (facts c hc).2.1
  have htrim2 := dropWhile_of_none (fun c => c == 32 || c == 9) t.reverse fun c hc =>
    (facts c (List.mem_reverse.1 hc)).2.1
  have hvalid : t.all Mime.validValueByte = true := List.all_eq_true.mpr fun c hc => (facts c hc).1
  simp only [headerOnWire, hmap, htrim1, htrim2, List.reverse_reverse, hvalid, if_true]

/-- a rendered ROR2 document is never empty (C01: `rawOf_wf`) -/
theorem renderRor2_ne_nil (esc : Bytes → Bytes) (plus : Bool) (E : EscLaws esc plus) (F : FloatLaws) (d : Doc) :
    renderRor2 esc d ≠ [] := by
  have hwf := rawOf_wf esc plus E F d
  rw [renderRor2_eq_renderRaw]
  cases hd : rawOf esc d with
  | str tok => rw [hd] at hwf; simp only [RawWF] at hwf; simpa [renderRaw] using hwf.1
  | obj kvs => simp [renderRaw]
  | arr xs => simp [renderRaw, Gen.listPrefix]
  | null | bool _ | num _ => rw [hd] at hwf; simp [RawWF] at hwf

/-- **The header text of every id is a transparent header value** -/
theorem headerText_safe {K : Consts} (hK : ConstsOk K) (E : EscLaws K.headerEsc false) (F : FloatLaws) (d : Doc) :
    HeaderSafe (renderRor2 K.headerEsc d) :=
  ⟨headerOnWire_good _ (renderRor2_good K.headerEsc
      (fun b => replaceWith_good K.headerEscapes hK.headerCovers hK.headerWrites b) d),
   renderRor2_ne_nil K.headerEsc false E F d⟩

end Restli.E2E
