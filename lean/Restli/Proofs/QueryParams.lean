import Restli.Model.QueryParams
import Restli.Model.Envelope
import Restli.Proofs.Ror2RoundTrip
import Restli.Proofs.Ror2Safe
import Restli.Proofs.Exclusion
/-! The query-parameters reader (`ParseQueryParams` + the generated `DecodeQueryParams`): it reads
back what `BuildQueryParams` writes for a record of parameters (`query_roundtrip`), it returns a
value or an error on every query string (`unmarshalQuery_total`), and on parameters that are
renderings of raw-token trees it is the tree reader on the object of its parameters
(`qpLoop_eq_tree`). -/
namespace Restli.Codec
open Json (JVal)

/-- a parameter name the ROR2 key decoding leaves as it is (no escapes, not the empty marker):
query strings use names verbatim -/
def PlainKey (k : Bytes) : Prop := decodeKey true k = some k

/-- the state every per-parameter reader ends in -/
def qpEnd : RS := { rest := [], start := false }

theorem splitOn_go_append (p : Bytes) (hp : ∀ c ∈ p, c ≠ 38) (rest cur : Bytes) :
    splitOn.go 38 (p ++ rest) cur = splitOn.go 38 rest (p.reverse ++ cur) := by
  induction p generalizing cur with
  | nil => simp
  | cons c cs ih =>
    have hc : (c == 38) = false := by simpa using hp c (by simp)
    simp only [List.cons_append, splitOn.go, hc, Bool.false_eq_true, ↓reduceIte]
    rw [ih (fun x hx => hp x (List.mem_cons_of_mem _ hx))]
    simp

theorem splitOn_joinAmp : ∀ (pieces : List Bytes), pieces ≠ [] → (∀ p ∈ pieces, ∀ c ∈ p, c ≠ 38) →
    splitOn 38 (joinAmp pieces) = pieces := by
  intro pieces h hp
  fun_induction joinAmp pieces with
  | case1 => exact absurd rfl h
  | case2 x =>
    simp only [splitOn]
    have := splitOn_go_append x (hp x (by simp)) [] []
    simp only [List.append_nil] at this
    rw [this]; simp [splitOn.go]
  | case3 x rest hne ih =>
    simp only [splitOn]
    rw [splitOn_go_append x (hp x (by simp)) _ []]
    simp only [splitOn.go, beq_self_eq_true, ↓reduceIte, List.append_nil, List.reverse_reverse]
    have := ih hne (fun p hp' => hp p (List.mem_cons_of_mem _ hp'))
    simp only [splitOn] at this
    rw [this]

theorem cutAt_key (k raw : Bytes) (hk : ∀ c ∈ k, c ≠ 61) : cutAt 61 (k ++ 61 :: raw) = (k, raw) := by
  induction k with
  | nil => simp [cutAt]
  | cons c cs ih =>
    have hc : (c == 61) = false := by simpa using hk c (by simp)
    simp only [List.cons_append, cutAt, hc, Bool.false_eq_true, ↓reduceIte]
    rw [ih (fun x hx => hk x (List.mem_cons_of_mem _ hx))]

theorem setRaw_fresh {m : List (Bytes × Bytes)} {k v : Bytes} (h : k ∉ m.map (·.1)) :
    setRaw m k v = m ++ [(k, v)] := by
  rw [setRaw, any_key_false h]
  rfl

/-- a parameter as it is written: `name=value` -/
def qpPiece (e : Bytes × Bytes) : Bytes := e.1 ++ 61 :: e.2

/-- what makes a list of (name, raw value) pairs survive the query-string syntax -/
structure QpOK (ps : List (Bytes × Bytes)) : Prop where
  keyAmp : ∀ e ∈ ps, ∀ c ∈ e.1, c ≠ 38 ∧ c ≠ 61
  valAmp : ∀ e ∈ ps, ∀ c ∈ e.2, c ≠ 38
  valid : ∀ e ∈ ps, validateRor2 e.2 = true
  nodup : (ps.map (·.1)).Nodup

theorem parseQueryParams_fold (ps : List (Bytes × Bytes)) :
    ∀ (pre : List (Bytes × Bytes)), (∀ e ∈ ps, ∀ c ∈ e.1, c ≠ 61) → (∀ e ∈ ps, validateRor2 e.2 = true) →
      (pre.map (·.1) ++ ps.map (·.1)).Nodup →
      (ps.map qpPiece).foldl (fun acc piece =>
        match acc with
        | none => none
        | some m =>
          if piece.isEmpty then some m
          else
            let (k, v) := cutAt 61 piece
            if !validateRor2 v then none else some (setRaw m k v)) (some pre) = some (pre ++ ps) := by
  induction ps with
  | nil => intro pre _ _ _; rw [List.append_nil]; rfl
  | cons e rest ih =>
    obtain ⟨k, raw⟩ := e
    intro pre hk hv hnd
    obtain ⟨hfresh, hnd'⟩ := nodup_append_cons hnd
    have hne : (k ++ 61 :: raw).isEmpty = false := by cases k <;> rfl
    simp only [List.map_cons, List.foldl_cons, qpPiece, hne, Bool.false_eq_true, ↓reduceIte,
      cutAt_key k raw (hk (k, raw) List.mem_cons_self), hv (k, raw) List.mem_cons_self, Bool.not_true]
    rw [setRaw_fresh hfresh,
      ih (pre ++ [(k, raw)]) (fun e he => hk e (List.mem_cons_of_mem _ he))
        (fun e he => hv e (List.mem_cons_of_mem _ he)) (by rwa [List.map_append]),
      List.append_assoc]
    rfl

theorem parseQueryParams_joinAmp (ps : List (Bytes × Bytes)) (h : QpOK ps) :
    parseQueryParams (joinAmp (ps.map qpPiece)) = some ps := by
  unfold parseQueryParams
  cases ps with
  | nil => simp [joinAmp, splitOn, splitOn.go]
  | cons e rest =>
    rw [splitOn_joinAmp _ (by simp)]
    · exact parseQueryParams_fold (e :: rest) [] (fun x hx c hc => (h.keyAmp x hx c hc).2) h.valid h.nodup
    · intro p hp c hc
      simp only [List.mem_map] at hp
      obtain ⟨x, hx, rfl⟩ := hp
      simp only [qpPiece, List.mem_append, List.mem_cons] at hc
      rcases hc with hc | rfl | hc
      · exact (h.keyAmp x hx c hc).1
      · decide
      · exact h.valAmp x hx c hc

/-- when every parameter names a field and its value reads back, consuming everything, the entries
come back in parameter order. The parameters are given by any list `ts` with a name, a raw text and
a value for each element. -/
theorem qpLoop_all (env : Env) (fields : List Field) {ι : Type} (key raw : ι → Bytes) (val : ι → Value) :
    ∀ (ts : List ι),
      (∀ t ∈ ts, ∃ f, findField fields (key t) = some f ∧
        readTy (qpCfg env) (3 * (raw t).length + 8) [.key (key t)] f.ty { rest := raw t, start := true } =
          .ok (val t) { rest := [], start := false, missing := [] }) →
      ∀ acc seen miss, (acc.map (·.1) ++ ts.map key).Nodup →
        qpLoop env fields (ts.map (fun t => (key t, raw t))) acc seen miss =
          .ok (acc ++ ts.map (fun t => (key t, val t)), seen ++ ts.map key, miss) qpEnd := by
  intro ts
  induction ts with
  | nil => intro _ acc seen miss _; simp [qpLoop, qpEnd]
  | cons t rest ih =>
    intro hgood acc seen miss hnd
    obtain ⟨hfresh, hnd'⟩ := nodup_append_cons hnd
    obtain ⟨f, hf, hread⟩ := hgood t List.mem_cons_self
    simp only [List.map_cons, qpLoop, hf, hread]
    rw [setEntry_fresh hfresh,
      ih (fun t ht => hgood t (List.mem_cons_of_mem _ ht)) _ _ _ (by rwa [List.map_append])]
    simp [List.append_assoc]

/-- nothing the query-flavour writer emits is an `&` -/
def NoAmp (esc : Bytes → Bytes) : Prop := ∀ b, ∀ c ∈ esc b, c ≠ 38

theorem render_noAmp_all (esc : Bytes → Bytes) (h : NoAmp esc) :
    (∀ d, ∀ c ∈ renderRor2 esc d, c ≠ 38) ∧ (∀ kvs, ∀ c ∈ renderRor2Kvs esc kvs, c ≠ 38) ∧
      (∀ xs, ∀ c ∈ renderRor2Items esc xs, c ≠ 38) :=
  renderRor2_forall esc (· ≠ 38) h (fun c hd e => absurd (e ▸ hd) (by decide)) (by decide) (by decide)

theorem renderKvs_noAmp (esc : Bytes → Bytes) (h : NoAmp esc) :
    (kvs : List (Bytes × Doc)) → ∀ c ∈ renderRor2Kvs esc kvs, c ≠ 38 :=
  (render_noAmp_all esc h).2.1
theorem renderItems_noAmp (esc : Bytes → Bytes) (h : NoAmp esc) :
    (xs : List Doc) → ∀ c ∈ renderRor2Items esc xs, c ≠ 38 :=
  (render_noAmp_all esc h).2.2

/-- **query parameters round trip**: the query string `BuildQueryParams` writes for a record of
parameters is read back by `ParseQueryParams` + the generated `DecodeQueryParams` to the record
(normalised: own defaults filled in, NaN canonical), every parameter consumed entirely, nothing
reported missing — for every schema, every record type, parameters of every type. -/
theorem query_roundtrip (env : Env) (esc : Bytes → Bytes) (E : EscLaws esc true) (F : FloatLaws)
    (S : SchemaOK env) (hamp : NoAmp esc) (n : TName) (incs : List TName) (own : List Field)
    (hfind : env.find n = some (.record incs own))
    (hnames : ∀ fld ∈ allFields env (includeFuel env) n, ∀ c ∈ fld.name, c ≠ 38 ∧ c ≠ 61)
    (fuel : Nat) (fs : List (Bytes × Value)) (hv : ValOK (.record fs)) (q : Bytes)
    (hq : buildQueryParams env esc fuel n (.record fs) = .ok q) :
    unmarshalQuery env n q =
      .ok (norm env (fuel + 1) (.ref n) (.record fs)) { rest := [], start := false } := by
  unfold buildQueryParams at hq
  simp only at hq
  have hnorm : norm env (fuel + 1) (.ref n) (.record fs) =
      (match setFields (allFields env (includeFuel env) n) fs with
        | some triples =>
          .record (populateDefaults own (sortByKey (triples.map (fun x => (x.1, norm env fuel x.2.1 x.2.2)))))
        | none => .record fs) := by
    simp only [norm, hfind]
    cases setFields (allFields env (includeFuel env) n) fs <;> rfl
  rw [hnorm]
  generalize hfields : allFields env (includeFuel env) n = fields at hq hnames ⊢
  cases hsf : setFields fields fs with
  | none => simp [hsf] at hq
  | some triples =>
    simp only [hsf] at hq ⊢
    cases hl : encodeTyped (fun _ => false)
        (fun k t v => encode { env := env, excl := .empty, sortKeys := true } fuel [k] t v) triples with
    | error e => simp [hl] at hq
    | ok kvs =>
      simp only [hl, Except.ok.injEq] at hq
      subst hq
      obtain ⟨hkvs, hall⟩ := encodeTyped_all _ triples kvs hl
      obtain ⟨hsub, hmem, hreq⟩ := setFields_spec fields fs triples hsf
      have hfnd : (fields.map (·.name)).Nodup := by
        rw [← hfields]; exact S.fieldsNodup n incs own hfind
      simp only [ValOK] at hv
      -- the set fields in the order they are written, each under its name; sorting moves whole
      -- entries, so the documents written and the values read back are maps over this one list
      let st := sortByKey (triples.map (fun it => (it.1, it)))
      have hst : ∀ (β : Type) (f : Bytes × Ty × Value → β),
          sortByKey (triples.map (fun it => (it.1, f it))) = st.map (fun e => (e.1, f e.2)) := by
        intro β f
        rw [← sortByKey_mapVal (fun _ => f), List.map_map]; rfl
      have horigin : ∀ e ∈ st, e.2 ∈ triples ∧ e.1 = e.2.1 := by
        intro e he
        obtain ⟨it, hit, rfl⟩ := List.mem_map.1 ((mem_sortByKey _ e).1 he)
        exact ⟨hit, rfl⟩
      have hkeys : (st.map (·.1)).Perm (triples.map (·.1)) := by
        have := (keys_sortByKey_perm (triples.map (fun it => (it.1, it)))).map (·.1)
        rwa [List.map_map] at this
      have hnd : (st.map (·.1)).Nodup := hkeys.nodup_iff.2 (hsub.nodup hfnd)
      let doc : Bytes × Ty × Value → Doc := fun it =>
        okDoc (encode { env := env, excl := .empty, sortKeys := true } fuel [it.1] it.2.1 it.2.2)
      let raw : Bytes × Bytes × Ty × Value → Bytes := fun e => renderRor2 esc (doc e.2)
      have hq : (sortByKey kvs).map (fun e => e.1 ++ 61 :: renderRor2 esc e.2) =
          (st.map (fun e => (e.1, raw e))).map qpPiece := by
        rw [hkvs, hst Doc doc, List.map_map, List.map_map]; rfl
      rw [hq]
      have hok : QpOK (st.map (fun e => (e.1, raw e))) := by
        refine ⟨?_, ?_, ?_, by rwa [List.map_map]⟩
        · intro p hp c hc
          obtain ⟨e, he, rfl⟩ := List.mem_map.1 hp
          obtain ⟨hit, h1⟩ := horigin e he
          obtain ⟨fld, hfld, hname, _, _⟩ := hmem e.2 hit
          rw [show (e.1, raw e).1 = fld.name from h1.trans hname.symm] at hc
          exact hnames fld hfld c hc
        · intro p hp c hc
          obtain ⟨e, _, rfl⟩ := List.mem_map.1 hp
          exact (render_noAmp_all esc hamp).1 _ c hc
        · intro p hp
          obtain ⟨e, _, rfl⟩ := List.mem_map.1 hp
          show validateRor2 (renderRor2 esc (doc e.2)) = true
          rw [renderRor2_eq_renderRaw]
          exact validate_raw _ (rawOf_wf esc true E F _)
      unfold unmarshalQuery
      rw [parseQueryParams_joinAmp _ hok]
      simp only [decodeQueryParams, hfind, hfields]
      have hgood : ∀ e ∈ st, ∃ f, findField fields e.1 = some f ∧
          readTy (qpCfg env) (3 * (raw e).length + 8) [.key e.1] f.ty { rest := raw e, start := true } =
            .ok (norm env fuel e.2.2.1 e.2.2.2) { rest := [], start := false, missing := [] } := by
        intro e he
        obtain ⟨hit, h1⟩ := horigin e he
        obtain ⟨fld, hfld, hname, hty, hlk⟩ := hmem e.2 hit
        refine ⟨fld, ?_, ?_⟩
        · rw [h1, ← hname]; exact findField_of_nodup fields hfnd fld hfld
        · rw [h1, hty]
          exact ror2_roundtrip_any env esc true E F S 0 fuel true [e.2.1] [.key e.2.1] e.2.2.1 e.2.2.2 _ _
            (Nat.le_add_right _ 8) (lookup_valOK fs hv _ _ hlk) (hall e.2 hit)
      rw [qpLoop_all env fields (fun e : Bytes × Bytes × Ty × Value => e.1) raw
        (fun e => norm env fuel e.2.2.1 e.2.2.2) st hgood [] [] [] hnd]
      simp only [List.nil_append]
      -- the epilogue: every required field was written, so nothing is missing and nothing to fill
      have hfin := finishRecord_complete env { excl := .empty, ignore := 0 } [] true own
        (fs := st.map fun e => (e.1, norm env fuel e.2.2.1 e.2.2.2)) (fun fld hf ho => by rw [List.map_map]; exact hkeys.mem_iff.2 (hreq fld hf ho))
      simp only [List.map_map, Function.comp_def] at hfin
      rw [hfin, ← hst Value (fun it => norm env fuel it.2.1 it.2.2)]
      rfl

theorem qpLoop_total (env : Env) (fields : List Field) :
    ∀ (ps : List (Bytes × Bytes)) acc seen miss,
      qpLoop env fields ps acc seen miss ≠ .panic ∧ qpLoop env fields ps acc seen miss ≠ .fuel := by
  intro ps
  induction ps with
  | nil => intro acc seen miss; simp [qpLoop]
  | cons e rest ih =>
    obtain ⟨k, raw⟩ := e
    intro acc seen miss
    simp only [qpLoop]
    split
    · next f _ =>
      -- a parameter's own reader starts with fuel `3 * raw.length + 8`, more than `readerSafe` asks for
      have hs := (readerSafe (qpCfg env) (3 * raw.length + 8)).1 [.key k] f.ty { rest := raw, start := true }
      split
      · exact ih _ _ _
      · simp
      · next h => exact absurd h hs.1
      · next h => exact absurd h (hs.2.2 (by simp only; omega))
      · simp
    · have hs := skip_safe True { rest := raw, start := true }
      split
      · exact ih _ _ _
      · simp
      · next h => exact absurd h hs.1
      · next h => exact absurd h (hs.2.2 trivial)
      · simp

/-- the query-parameters reader model returns a value or an error on every query string: no panic
branch, never out of fuel -/
theorem unmarshalQuery_total (env : Env) (n : TName) (q : Bytes) :
    unmarshalQuery env n q ≠ .panic ∧ unmarshalQuery env n q ≠ .fuel := by
  unfold unmarshalQuery
  split
  · simp
  · next params _ =>
    unfold decodeQueryParams
    split
    · have ht := qpLoop_total env (allFields env (includeFuel env) n) params [] [] []
      simp only [finishRecord_top]
      cases hq : qpLoop env (allFields env (includeFuel env) n) params [] [] [] with
      | ok r s =>
        by_cases h : missingAfter { excl := .empty, ignore := 0 } [] (allFields env (includeFuel env) n) r.2.1 r.2.2 = [] <;>
          simp [h]
      | err e => simp
      | panic => exact absurd hq ht.1
      | fuel => exact absurd hq ht.2
      | unmodelled => simp
    · simp

/-- the right side is a `match`, not `liftT`: `qpLoop` threads the missing list as a value beside
the state it returns, `liftT` would put it into the state -/
theorem qpLoop_eq_tree (env : Env) (fields : List Field) :
    ∀ (ps : List (Bytes × JVal)), (∀ e ∈ ps, RawWF e.2 ∧ PlainKey e.1) →
    ∀ acc seen miss,
      qpLoop env fields (ps.map (fun e => (e.1, renderRaw e.2))) acc seen miss =
        (match treeReadEntries (tcOf (qpCfg env)) [] (.record fields) acc seen ps with
        | .ok r m => .ok (r.1, r.2, miss ++ m) qpEnd
        | .err e => .err e
        | .panic => .panic
        | .unmodelled => .unmodelled) := by
  intro ps
  induction ps with
  | nil => intro _ acc seen miss; simp [qpLoop, treeReadEntries, qpEnd]
  | cons e rest ih =>
    obtain ⟨k, t⟩ := e
    intro hps acc seen miss
    obtain ⟨hw, hk⟩ := hps (k, t) List.mem_cons_self
    have ih := ih (fun e he => hps e (List.mem_cons_of_mem _ he))
    have hnn : t ≠ .null := rawWF_ne_null t hw
    rw [treeReadEntries_cons _ _ _ _ _ _ _ _ hnn]
    have hkey : (tcOf (qpCfg env)).sem.key k = some k := hk
    have hchk : (tcOf (qpCfg env)).tracker.check [Seg.key k] = .no := tracker_check_empty 0 _
    simp only [hkey, List.nil_append, hchk, List.map_cons, qpLoop, treeCallbackWith]
    cases hf : findField fields k with
    | none =>
      simp only [skip, ↓reduceIte, bindT]
      rw [ih acc (seen ++ [k]) miss]
      cases treeReadEntries (tcOf (qpCfg env)) [] (.record fields) acc (seen ++ [k]) rest <;> simp
    | some f =>
      have hb := bridge_top (qpCfg env) t hw (3 * (renderRaw t).length + 8)
        (by have := needT_le t hw; omega) [.key k] f.ty
      have hq : (!(qpCfg env).query) = false := rfl
      rw [hq] at hb
      simp only
      rw [hb]
      cases htr : treeRead (tcOf (qpCfg env)) false [.key k] f.ty t with
      | ok x m1 =>
        simp only [liftT, bindT, List.nil_append]
        rw [ih (setEntry acc k x) (seen ++ [k]) (miss ++ m1)]
        cases treeReadEntries (tcOf (qpCfg env)) [] (.record fields) (setEntry acc k x) (seen ++ [k]) rest <;>
          simp [List.append_assoc]
      | _ => simp [liftT, bindT]

end Restli.Codec
