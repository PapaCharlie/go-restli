import Restli.Proofs.Ror2Scan
import Restli.Proofs.Ror2Eqns
import Restli.Proofs.TreeReaderEqns
/-! The bridge between the ROR2 cursor reader and the tree reader: on the rendering of any
well-formed raw-token tree, followed by a delimiter, the generated unmarshalers driving
`ror2Reader` (model `readTy`) produce exactly what `treeRead` produces on the tree — the same
value, the same error, the same missing-field list — and stop at that delimiter. The same holds
at position 0 of the input (`bridge_anywhere` covers both), where the tree reader runs at top level. -/
namespace Restli.Codec
open Json (JVal)

theorem liftT_ok {α : Type} (v : α) (ms : List Bytes) (s : RS) :
    liftT (.ok v ms) s = .ok v { s with missing := s.missing ++ ms } := rfl

theorem liftT_ok_nil {α : Type} {v : α} {s : RS} : .ok v s = liftT (.ok v []) s := by
  rw [liftT_ok, List.append_nil]

/-- a tree-side `bindT` lifts to a reader-side `bind`, when the continuations agree on every value
and missing list; the state in which the first result stops may differ from the final one -/
theorem liftT_bindT {α β : Type} {r : TRes α} {f : α → List Bytes → TRes β} {g : α → RS → Res β} {s₁ s₂ : RS}
    (h : ∀ v m, g v { s₁ with missing := s₁.missing ++ m } = liftT (f v m) s₂) :
    (liftT r s₁).bind g = liftT (bindT r f) s₂ := by
  cases r with
  | ok v m => exact h v m
  | _ => rfl

/-- missing fields found before a read are prepended to those it finds -/
theorem liftT_missing_append {α : Type} (r : TRes α) (rest : Bytes) (m m1 : List Bytes) :
    liftT r { rest := rest, start := false, missing := m ++ m1 } =
      liftT (bindT r fun v m2 => .ok v (m1 ++ m2)) { rest := rest, start := false, missing := m } := by
  cases r with
  | ok v m2 => simp only [liftT, bindT, List.append_assoc]
  | _ => rfl

theorem rawWF_ne_null (v : JVal) (hw : RawWF v) : v ≠ .null := by
  intro h; subst h; simp [RawWF] at hw

/-- `ReadBytes` is `ReadString` with another wrapper, on any tree -/
theorem ror2Sem_bytes (plus : Bool) (t : JVal) :
    (ror2Sem plus).prim .bytes t = bindT ((ror2Sem plus).str t) fun b m => .ok (.bytes b) m := by
  cases t with
  | str tok =>
    show liftTok (tokPrim plus .bytes tok) = bindT (match tokString plus tok with | some b => .ok b [] | none => .err .syntax) _
    rw [tokPrim]
    cases tokString plus tok <;> rfl
  | _ => rfl

theorem readPrim_of_tok {rc : RCfg} {p : Prim} {s s' : RS} {tok : Bytes} (h : readPrimTok s = .ok tok s') :
    readPrim rc p s = liftT ((tcOf rc).sem.prim p (.str tok)) s' := by
  rw [readPrim_eq, h]
  show _ = liftT (liftTok (tokPrim rc.plus p tok)) s'
  simp only [Res.bind]
  cases tokPrim rc.plus p tok with
  | ok v => exact liftT_ok_nil
  | _ => rfl

theorem readString_of_tok {rc : RCfg} {s s' : RS} {tok : Bytes} (h : readPrimTok s = .ok tok s') :
    readString rc s = liftT ((tcOf rc).sem.str (.str tok)) s' := by
  rw [readString_eq, h]
  show _ = liftT (match tokString rc.plus tok with | some b => .ok b [] | none => .err .syntax) s'
  simp only [Res.bind]
  cases tokString rc.plus tok with
  | some b => exact liftT_ok_nil
  | none => rfl

theorem readPrim_of_err {rc : RCfg} {p : Prim} {s : RS} (h : readPrimTok s = .err .syntax) :
    readPrim rc p s = .err .syntax := by
  rw [readPrim_eq, h]; rfl

theorem readString_of_err {rc : RCfg} {s : RS} (h : readPrimTok s = .err .syntax) :
    readString rc s = .err .syntax := by
  rw [readString_eq, h]; rfl

theorem readMap_open (rc : RCfg) (f : Nat) (scope : List Seg) (mode : MapMode) (body : Bytes) (st : Bool)
    (m : List Bytes) :
    readMap rc (f + 1) scope mode { rest := 40 :: body, start := st, missing := m } =
      readMapLoop rc f scope mode [] [] { rest := body, start := false, missing := m } := by
  simp only [readMap, atMap_obj, Bool.not_true, Bool.false_eq_true, ↓reduceIte, List.drop_succ_cons,
    List.drop_zero, adv_lt (r1 := 40 :: body) st (Nat.lt_succ_self _)]

theorem readMap_not_map {rc : RCfg} {f : Nat} {scope : List Seg} {mode : MapMode} {s : RS}
    (h : atMap s = false) : readMap rc (f + 1) scope mode s = .err .syntax := by
  simp only [readMap, h, Bool.not_false, ↓reduceIte]

theorem readArray_not_array {rc : RCfg} {f : Nat} {scope : List Seg} {ty : Ty} {s : RS}
    (h : atArray s = false) : readArray rc (f + 1) scope ty s = .err .syntax := by
  simp only [readArray, h, Bool.not_false, ↓reduceIte]

theorem readArray_open (rc : RCfg) (f : Nat) (scope : List Seg) (ty : Ty) (c : UInt8) (body : Bytes) (st : Bool)
    (m : List Bytes) :
    readArray rc (f + 1) scope ty { rest := Gen.listPrefix ++ c :: body, start := st, missing := m } =
      if c == 41 then .ok (.arr []) { rest := body, start := false, missing := m }
      else (readArrayLoop rc f scope ty 0 { rest := c :: body, start := false, missing := m }).bind
        fun vs s2 => .ok (.arr vs) s2 := by
  have : (c :: body).length < (Gen.listPrefix ++ c :: body).length := by simp [listPrefix_eq]
  simp only [readArray_succ, atArray_arr _ (List.cons_ne_nil c body), Bool.not_true, Bool.false_eq_true,
    ↓reduceIte, List.drop_left', adv_lt st this, adv_nonstart]

theorem missingAfter_prefix (tr : Tracker) (scope : List Seg) (fields : List Field) (seen m ms : List Bytes) :
    missingAfter tr scope fields seen (m ++ ms) = m ++ missingAfter tr scope fields seen ms := by
  simp only [missingAfter, List.append_assoc]

/-- `finishRecord` only appends to the missing list it is given; at the top level, where it reports
that list, the reader has recorded nothing before -/
theorem finishRecord_append {env : Env} {tr : Tracker} {scope : List Seg} {top : Bool} {fields own : List Field}
    {fs : List (Bytes × Value)} {seen m ms : List Bytes} (hm : top = true → m = []) :
    finishRecord env tr scope top fields own fs seen (m ++ ms) =
      (match finishRecord env tr scope top fields own fs seen ms with
       | .ok v mm => .ok v (m ++ mm)
       | .missingErr ps v => .missingErr ps v
       | .panic => .panic) := by
  cases top with
  | true =>
    rw [hm rfl, List.nil_append]
    cases finishRecord env tr scope true fields own fs seen ms <;> rfl
  | false =>
    unfold finishRecord
    split
    · rfl
    · simp only [Bool.false_and, Bool.false_eq_true, ↓reduceIte, missingAfter_prefix]

/-- **the generated `UnmarshalRestLi` does the same over both readers**: if, in state `s`, the
cursor reader's four entry points agree with the tree reader's on the tree `t` and leave state
`s'`, so does the unmarshaler of every type (`hm`: see `finishRecord_append`) -/
theorem readTy_of_parts {rc : RCfg} {fuel : Nat} {scope : List Seg} {t : JVal} {s s' : RS}
    (hprim : ∀ p, readPrim rc p s = liftT ((tcOf rc).sem.prim p t) s')
    (hstr : readString rc s = liftT ((tcOf rc).sem.str t) s')
    (hmap : ∀ mode, readMap rc fuel scope mode s = liftT (treeMapBody (tcOf rc) scope mode t) s')
    (harr : ∀ ty, readArray rc fuel scope ty s =
      liftT (treeRead (tcOf rc) (s.start && !rc.query) scope (.arr ty) t) s')
    (hm : (s.start && !rc.query) = true → s'.missing = []) (ty : Ty) :
    readTy rc (fuel + 1) scope ty s = liftT (treeRead (tcOf rc) (s.start && !rc.query) scope ty t) s' := by
  cases ty with
  | prim p => rw [readTy, treeRead]; exact hprim p
  | arr ty' => rw [readTy]; exact harr ty'
  | map ty' =>
    rw [readTy_map, hmap]
    have : treeRead (tcOf rc) (s.start && !rc.query) scope (.map ty') t =
        bindT (treeMapBody (tcOf rc) scope (.mapOf ty') t) fun r m => .ok (.map r.1) m := by
      cases t <;> rfl
    rw [this]
    exact liftT_bindT fun r m => rfl
  | ref n =>
    rw [readTy_ref, treeRead, show (tcOf rc).env.find n = rc.env.find n from rfl]
    cases rc.env.find n with
    | none => rfl
    | some d =>
      cases d with
      | typeref p => exact hprim p
      | enum syms =>
        dsimp only
        rw [hstr]
        exact liftT_bindT fun b m => rfl
      | fixed size =>
        dsimp only
        rw [hstr]
        show _ = liftT (bindT ((ror2Sem rc.plus).prim .bytes t) _) s'
        rw [ror2Sem_bytes, bindT_assoc]
        refine liftT_bindT fun b m => ?_
        dsimp only [bindT, liftT]
        split <;> rfl
      | record incs own =>
        dsimp only
        rw [hmap]
        refine liftT_bindT (f := fun r m => _) fun r m => ?_
        dsimp only [tcOf]
        rw [finishRecord_append hm]
        cases finishRecord rc.env rc.tracker scope (s.start && !rc.query)
          (allFields rc.env (includeFuel rc.env) n) own r.1 r.2 m <;> rfl
      | union hasNull members =>
        dsimp only
        rw [hmap]
        refine liftT_bindT (f := fun r m => _) fun r m => ?_
        dsimp only [liftT]
        split <;> rfl

abbrev liftEntries (rc : RCfg) (scope : List Seg) (mode : MapMode) (acc : List (Bytes × Value))
    (seen : List Bytes) (kvs : List (Bytes × JVal)) (s : RS) : Res (List (Bytes × Value) × List Bytes) :=
  liftT (treeReadEntries (tcOf rc) scope mode acc seen kvs) s

theorem readMapCallback_rendered {rc : RCfg} {v : JVal} (hw : RawWF v) {f : Nat} {scope' : List Seg} {mode : MapMode}
    {acc : List (Bytes × Value)} {seen : List Bytes} {k' : Bytes} {d2 : UInt8} {tail2 : Bytes} {m : List Bytes}
    (hd2 : isDelim d2 = true)
    (ih : ∀ ty, readTy rc f scope' ty { rest := renderRaw v ++ d2 :: tail2, start := false, missing := m } =
      liftT (treeRead (tcOf rc) false scope' ty v) { rest := d2 :: tail2, start := false, missing := m }) :
    readMapCallback rc (f + 1) scope' mode acc seen k' { rest := renderRaw v ++ d2 :: tail2, start := false, missing := m } =
      liftT (treeCallbackWith (fun ty => treeRead (tcOf rc) false scope' ty v) mode acc seen k')
        { rest := d2 :: tail2, start := false, missing := m } := by
  rw [readMapCallback_succ]
  cases mode with
  | record fields =>
    dsimp only [treeCallbackWith]
    cases findField fields k' with
    | none =>
      dsimp only
      rw [skip_rendered hw hd2]
      exact liftT_ok_nil
    | some fld =>
      dsimp only
      rw [ih]
      exact liftT_bindT fun x m1 => rfl
  | mapOf ty =>
    dsimp only [treeCallbackWith]
    rw [ih]
    exact liftT_bindT fun x m1 => rfl
  | union members =>
    dsimp only [treeCallbackWith]
    cases seen with
    | cons _ _ => rfl
    | nil =>
      dsimp only [List.isEmpty_nil, Bool.not_true, Bool.false_eq_true, ↓reduceIte]
      cases members.lookup k' with
      | none => rfl
      | some ty =>
        dsimp only
        rw [ih]
        exact liftT_bindT fun x m1 => rfl

/-- `needT`, `needKvs`, `needItems` (Model/Ror2Tree.lean) measure the fuel on the tree, not on the
remaining input as `ReaderSafe` does: what follows the rendering is arbitrary here, so only a measure
that does not see it can be carried through the induction. For a container two calls get from
`readTy` into the loop (`readTy` → `readMap`/`readArray` → loop); the 4 of `needT` leaves two to spare. -/
theorem need_container {b fuel : Nat} (h : 4 + b ≤ fuel) : ∃ f, fuel = f + 4 ∧ b ≤ f :=
  ⟨fuel - 4, by omega⟩

/-- an element `a` followed by the elements `b`: the loop needs `a + 2` for the element (loop →
callback → `readTy`) and `b + 1` for the rest; the 3 of `needKvs`/`needItems` covers both -/
theorem need_cons {a b fuel : Nat} (h : a + 3 + b ≤ fuel) : ∃ f, fuel = f + 2 ∧ a ≤ f ∧ b ≤ f + 1 :=
  ⟨fuel - 2, by omega⟩

/-- **the bridge, wherever the value stands**: the generated unmarshaler of any type, run by the
cursor reader on the rendering of a well-formed tree, yields what the tree reader yields on the
tree and stops right after the rendering. A primitive token must be followed by what ends a
primitive read (`TokEnds`); an object or array may be followed by anything. Position 0 of a reader
that is not a per-parameter query reader is the top level, where missing required fields are
raised, so nothing may have been recorded as missing before. With it, the loops of `ReadMap` and
`ReadArray` on rendered members and elements. -/
theorem bridge_anywhere (rc : RCfg) :
    (∀ t, RawWF t → ∀ (st : Bool) {tail : Bytes}, (∀ tok, t = .str tok → TokEnds st tail) →
      ∀ {fuel : Nat} {scope : List Seg} {ty : Ty} {m : List Bytes},
      needT t ≤ fuel → ((st && !rc.query) = true → m = []) →
      readTy rc fuel scope ty { rest := renderRaw t ++ tail, start := st, missing := m } =
        liftT (treeRead (tcOf rc) (st && !rc.query) scope ty t) { rest := tail, start := false, missing := m }) ∧
    (∀ kvs, RawWFKvs kvs → ∀ {fuel : Nat} {scope : List Seg} {mode : MapMode} {acc : List (Bytes × Value)}
      {seen : List Bytes} {tail : Bytes} {m : List Bytes}, needKvs kvs ≤ fuel →
      readMapLoop rc fuel scope mode acc seen
          { rest := renderRawKvs kvs ++ 41 :: tail, start := false, missing := m } =
        liftT (treeReadEntries (tcOf rc) scope mode acc seen kvs) { rest := tail, start := false, missing := m }) ∧
    (∀ xs, RawWFItems xs → xs ≠ [] → ∀ {fuel : Nat} {scope : List Seg} {ty : Ty} {idx : Nat} {tail : Bytes}
      {m : List Bytes}, needItems xs ≤ fuel →
      readArrayLoop rc fuel scope ty idx { rest := renderRawItems xs ++ 41 :: tail, start := false, missing := m } =
        liftT (treeReadItems (tcOf rc) scope ty idx xs) { rest := tail, start := false, missing := m }) := by
  refine rawWF_induct ?_ ?_ ?_ ?_ ?_ ?_ ?_
  · intro tok hw st tail he fuel scope ty m hf hm
    obtain ⟨f, rfl⟩ := Nat.exists_eq_add_of_le' (show 2 ≤ fuel from hf)
    have htok := readPrimTok_tok hw (he tok rfl) m
    exact readTy_of_parts (fun _ => readPrim_of_tok htok) (readString_of_tok htok)
      (fun _ => readMap_not_map (atMap_tok hw)) (fun _ => readArray_not_array (atArray_tok hw (he tok rfl))) hm ty
  · intro kvs hw ihk st tail _ fuel scope ty m hf hm
    obtain ⟨f, rfl, hfk⟩ := need_container hf
    rw [renderRaw_obj_append]
    refine readTy_of_parts (fun _ => readPrim_of_err (readPrimTok_paren [] nofun))
      (readString_of_err (readPrimTok_paren [] nofun)) (fun mode => ?_)
      (fun _ => readArray_not_array atArray_obj) hm ty
    rw [readMap_open]
    exact ihk (Nat.le_add_right_of_le hfk)
  · intro xs hw ihi st tail _ fuel scope ty m hf hm
    obtain ⟨f, rfl, hfi⟩ := need_container hf
    rw [renderRaw_arr_append]
    have hpre : ∀ c ∈ Gen.listPrefix.dropLast, isDelim c = false := by decide
    refine readTy_of_parts (fun _ => readPrim_of_err (readPrimTok_paren _ hpre))
      (readString_of_err (readPrimTok_paren _ hpre))
      (fun _ => readMap_not_map atMap_arr) (fun ty' => ?_) hm ty
    rw [treeRead]
    cases xs with
    | nil =>
      rw [show renderRawItems [] ++ 41 :: tail = 41 :: tail from rfl, readArray_open]
      exact liftT_ok_nil
    | cons x more =>
      obtain ⟨c, cs, hc, hne41⟩ := renderRawItems_head hw (41 :: tail)
      rw [hc, readArray_open, if_neg (by simpa using hne41), ← hc,
        ihi (List.cons_ne_nil _ _) (Nat.le_add_right_of_le hfi)]
      exact liftT_bindT fun vs m1 => rfl
  · intro fuel scope mode acc seen tail m hf
    obtain ⟨f, rfl⟩ := Nat.exists_eq_add_of_le' (show 1 ≤ fuel from hf)
    rw [readMapLoop_succ]
    exact liftT_ok_nil
  · intro k v more hk hv hmore ihv ihm fuel scope mode acc seen tail m hf
    obtain ⟨f, rfl, hfv, hfm⟩ := need_cons hf
    -- the rendering: key, ':', value, then either ')' (last entry) or ',' and the other entries
    obtain ⟨d2, tail2, hd2, hrender, hnext⟩ : ∃ d2 tail2, isDelim d2 = true ∧
        renderRawKvs ((k, v) :: more) ++ 41 :: tail = k ++ 58 :: (renderRaw v ++ d2 :: tail2) ∧
        ((more = [] ∧ d2 = 41 ∧ tail2 = tail) ∨
         (d2 = 44 ∧ tail2 = renderRawKvs more ++ 41 :: tail)) := by
      cases more with
      | nil => exact ⟨41, tail, by decide, by simp [renderRawKvs], Or.inl ⟨rfl, rfl, rfl⟩⟩
      | cons kv2 more' =>
        exact ⟨44, renderRawKvs (kv2 :: more') ++ 41 :: tail, by decide, by simp [renderRawKvs],
          Or.inr ⟨rfl, rfl⟩⟩
    rw [hrender, treeReadEntries_cons _ _ _ _ _ _ _ _ (rawWF_ne_null v hv), readMapLoop_succ]
    simp only [readFieldName_key k _ hk, adv_nonstart]
    rw [show (if (k == Gen.emptyMarker) = true then some [] else rc.decode k) = (tcOf rc).sem.key k from rfl,
      show (tcOf rc).tracker = rc.tracker from rfl]
    cases (tcOf rc).sem.key k with
    | none => rfl
    | some k' =>
      dsimp only
      cases rc.tracker.check (scope ++ [Seg.key k']) with
      | panic => rfl
      | yes => rfl
      | no =>
        dsimp only
        rw [readMapCallback_rendered hv hd2 fun _ => ihv false (fun _ _ => ⟨d2, tail2, rfl, hd2⟩) hfv nofun]
        refine liftT_bindT fun acc' m1 => ?_
        rcases hnext with ⟨rfl, rfl, rfl⟩ | ⟨rfl, rfl⟩
        · simp only [treeReadEntries, bindT, liftT, List.append_nil]
          rfl
        · rw [← liftT_missing_append]
          exact ihm hfm
  · exact fun h => absurd rfl h
  · intro v more hv hmore ihv ihm _ fuel scope ty idx tail m hf
    obtain ⟨f, rfl, hfv, hfm⟩ := need_cons hf
    obtain ⟨d2, tail2, hd2, hrender, hnext⟩ : ∃ d2 tail2, isDelim d2 = true ∧
        renderRawItems (v :: more) ++ 41 :: tail = renderRaw v ++ d2 :: tail2 ∧
        ((more = [] ∧ d2 = 41 ∧ tail2 = tail) ∨
         (more ≠ [] ∧ d2 = 44 ∧ tail2 = renderRawItems more ++ 41 :: tail)) := by
      cases more with
      | nil => exact ⟨41, tail, by decide, by simp [renderRawItems], Or.inl ⟨rfl, rfl, rfl⟩⟩
      | cons v2 more' =>
        exact ⟨44, renderRawItems (v2 :: more') ++ 41 :: tail, by decide, by simp [renderRawItems],
          Or.inr ⟨List.cons_ne_nil _ _, rfl, rfl⟩⟩
    rw [hrender, readArrayLoop_succ, treeReadItems,
      ihv false (fun _ _ => ⟨d2, tail2, rfl, hd2⟩) (Nat.le_succ_of_le hfv) nofun]
    refine liftT_bindT fun val m1 => ?_
    rcases hnext with ⟨rfl, rfl, rfl⟩ | ⟨hmne, rfl, rfl⟩
    · simp only [treeReadItems, bindT, liftT, List.append_nil]
      rfl
    · simp only [beq_self_eq_true, ↓reduceIte, adv_nonstart]
      rw [ihm hmne hfm]
      exact liftT_bindT fun vs m2 => by simp only [liftT, List.append_assoc]

/-- **bridge**: the cursor reader on a rendered tree equals the tree reader on the tree -/
theorem bridge (rc : RCfg) : (t : JVal) → RawWF t → ∀ (fuel : Nat) (scope : List Seg) (ty : Ty) (d : UInt8)
    (rest : Bytes) (m : List Bytes), isDelim d = true → needT t ≤ fuel →
    readTy rc fuel scope ty { rest := renderRaw t ++ d :: rest, start := false, missing := m } =
      liftT (treeRead (tcOf rc) false scope ty t) { rest := d :: rest, start := false, missing := m } :=
  fun t hw _ _ _ d rest _ hd hf =>
    (bridge_anywhere rc).1 t hw false (fun _ _ => ⟨d, rest, rfl, hd⟩) hf nofun

/-- **top-level bridge**: a whole document that is an object, read from position 0 — by the
generated `UnmarshalRestLi` of any type — behaves like the tree reader at top level (so missing
required fields are raised here, in one error), and whatever follows the object is not looked at -/
theorem bridge_top_obj (rc : RCfg) (hq : rc.query = false) (kvs : List (Bytes × JVal)) (hw : RawWFKvs kvs)
    (fuel : Nat) (hf : needT (.obj kvs) ≤ fuel) (ty : Ty) (junk : Bytes) :
    readTy rc fuel [] ty { rest := renderRaw (.obj kvs) ++ junk, start := true, missing := [] } =
      liftT (treeRead (tcOf rc) true [] ty (.obj kvs)) { rest := junk, start := false, missing := [] } := by
  have := (bridge_anywhere rc).1 (.obj kvs) hw true (tail := junk) nofun (scope := []) (ty := ty) hf fun _ => rfl
  rwa [hq] at this

/-- **a whole input that is one rendered value**, read from position 0 by the generated
`UnmarshalRestLi` of any type under any scope: the tree reader's result (at top level unless the
reader is a per-parameter query reader), everything consumed -/
theorem bridge_top (rc : RCfg) : (t : JVal) → RawWF t → ∀ (fuel : Nat), needT t ≤ fuel →
    ∀ (scope : List Seg) (ty : Ty),
    readTy rc fuel scope ty { rest := renderRaw t, start := true, missing := [] } =
      liftT (treeRead (tcOf rc) (!rc.query) scope ty t) { rest := [], start := false, missing := [] } :=
  fun t hw fuel hf scope ty => by
    rw [← List.append_nil (renderRaw t)]
    exact (bridge_anywhere rc).1 t hw true (fun _ _ => rfl) hf fun _ => rfl

end Restli.Codec
