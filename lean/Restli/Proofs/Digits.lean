import Restli.Lib.Strconv
import Restli.Proofs.Bytes
/-! `strconv.ParseInt(strconv.FormatInt(v, 10), 10, bits) = v` for every in-range integer, and
the text `FormatInt` produces consists of an optional '-' and decimal digits only. -/
namespace Restli.Strconv

theorem isDigit_iff (c : UInt8) : isDigit c = true ↔ 48 ≤ c.toNat ∧ c.toNat ≤ 57 := by
  rw [isDigit, Bool.and_eq_true, decide_eq_true_eq, decide_eq_true_eq, UInt8.le_iff_toNat_le, UInt8.le_iff_toNat_le]
  rfl

theorem isDigit_ne (c k : UInt8) (hc : isDigit c = true) (hk : isDigit k = false) : c ≠ k :=
  fun e => by rw [e, hk] at hc; cases hc

theorem digit_toNat (d : Nat) (h : d < 10) : (UInt8.ofNat (48 + d)).toNat = 48 + d := by
  rw [UInt8.toNat_ofNat']
  exact Nat.mod_eq_of_lt (by omega)

theorem digit_isDigit (d : Nat) (h : d < 10) : isDigit (UInt8.ofNat (48 + d)) = true := by
  rw [isDigit_iff, digit_toNat d h]
  omega

theorem natOfDigits_append (xs : Bytes) (c : UInt8) (acc : Nat) :
    natOfDigits (xs ++ [c]) acc = natOfDigits xs acc * 10 + (c.toNat - 48) := by
  induction xs generalizing acc with
  | nil => rfl
  | cons x xs ih => exact ih _

theorem natOfDigits_digitsOfNat (n : Nat) : natOfDigits (digitsOfNat n) 0 = n := by
  fun_induction digitsOfNat n with
  | case1 n h =>
    rw [natOfDigits, natOfDigits, digit_toNat n h, Nat.zero_mul, Nat.zero_add, Nat.add_sub_cancel_left]
  | case2 n h ih =>
    rw [natOfDigits_append, ih, digit_toNat (n % 10) (Nat.mod_lt _ (by decide)), Nat.add_sub_cancel_left]
    exact Nat.div_add_mod' n 10

theorem digitsOfNat_all_digits : ∀ n : Nat, ∀ c ∈ digitsOfNat n, isDigit c = true := by
  intro n
  fun_induction digitsOfNat n with
  | case1 n h =>
    intro c hc
    rw [List.mem_singleton.1 hc]
    exact digit_isDigit n h
  | case2 n h ih =>
    intro c hc
    rcases List.mem_append.1 hc with hc | hc
    · exact ih c hc
    · rw [List.mem_singleton.1 hc]
      exact digit_isDigit (n % 10) (Nat.mod_lt _ (by decide))

theorem digitsOfNat_ne_nil (n : Nat) : digitsOfNat n ≠ [] := by
  rw [digitsOfNat]; split <;> simp

theorem digitsOfNat_head_nonzero : ∀ n : Nat, 0 < n → ∃ c cs, digitsOfNat n = c :: cs ∧ c ≠ 48 := by
  intro n
  fun_induction digitsOfNat n with
  | case1 n h =>
    refine fun hn => ⟨_, [], rfl, fun e => ?_⟩
    have : 48 + n = 48 := (digit_toNat n h).symm.trans (congrArg UInt8.toNat e)
    omega
  | case2 n h ih =>
    intro hn
    obtain ⟨c, cs, hc, hne⟩ := ih (by omega)
    exact ⟨c, cs ++ [UInt8.ofNat (48 + n % 10)], by rw [hc]; rfl, hne⟩

theorem splitSign_digits (s : Bytes) (h : ∀ c ∈ s, isDigit c = true) : splitSign s = (false, s) := by
  unfold splitSign
  split
  · exact absurd rfl (isDigit_ne 43 43 (h 43 (List.mem_cons_self ..)) rfl)
  · exact absurd rfl (isDigit_ne 45 45 (h 45 (List.mem_cons_self ..)) rfl)
  · rfl

theorem parseInt_digits (bits n : Nat) (neg : Bool) :
    parseInt bits (if neg then 45 :: digitsOfNat n else digitsOfNat n) =
      if neg then (if n ≤ 2 ^ (bits - 1) then some (-(n : Int)) else none)
      else (if n < 2 ^ (bits - 1) then some (n : Int) else none) := by
  have hdig := digitsOfNat_all_digits n
  have hall : (digitsOfNat n).all isDigit = true := List.all_eq_true.2 hdig
  have hemp : (digitsOfNat n).isEmpty = false := by
    rw [List.isEmpty_eq_false_iff]; exact digitsOfNat_ne_nil n
  have hsplit : splitSign (if neg then 45 :: digitsOfNat n else digitsOfNat n) = (neg, digitsOfNat n) := by
    cases neg
    · exact splitSign_digits _ hdig
    · rfl
  simp only [parseInt, hsplit, hemp, hall, natOfDigits_digitsOfNat, Bool.not_true, Bool.or_self,
    Bool.false_eq_true, ↓reduceIte]

/-- `ParseInt(FormatInt(v)) = v` for every integer representable in `bits` bits -/
theorem parseInt_formatInt (bits : Nat) (v : Int)
    (hlo : -((2 ^ (bits - 1) : Nat) : Int) ≤ v) (hhi : v < ((2 ^ (bits - 1) : Nat) : Int)) :
    parseInt bits (formatInt v) = some v := by
  have := parseInt_digits bits v.natAbs (decide (v < 0))
  unfold formatInt
  by_cases hneg : v < 0
  · simp only [hneg, decide_true, ↓reduceIte] at this ⊢
    rw [this, if_pos (by omega), Int.ofNat_natAbs_of_nonpos (Int.le_of_lt hneg), Int.neg_neg]
  · simp only [hneg, decide_false, Bool.false_eq_true, ↓reduceIte] at this ⊢
    rw [this, if_pos (by omega), Int.natAbs_of_nonneg (Int.not_lt.1 hneg)]

/-- the text of an integer contains no byte that could end, nest or escape a ROR2 token -/
theorem formatInt_clean (v : Int) : formatInt v ≠ [] ∧ ∀ c ∈ formatInt v, isDigit c = true ∨ c = 45 := by
  unfold formatInt
  split
  · exact ⟨List.cons_ne_nil _ _, fun c hc => by
      rcases List.mem_cons.1 hc with rfl | hc
      · exact Or.inr rfl
      · exact Or.inl (digitsOfNat_all_digits _ c hc)⟩
  · exact ⟨digitsOfNat_ne_nil _, fun c hc => Or.inl (digitsOfNat_all_digits _ c hc)⟩

end Restli.Strconv
