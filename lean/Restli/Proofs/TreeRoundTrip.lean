import Restli.Proofs.Ror2RawTree
import Restli.Proofs.ValOK
import Restli.Proofs.PathSpecPanic
/-! The typed tree-level round trip: reading the document tree of what `encode` produced gives
back the value (normalised: defaults filled, entries in key order, NaN canonical). The proof is
generic in how a wire format presents a document as a parsed tree (`TreeEnc`: leaf tokens, key
tokens, leaf semantics) and is instantiated for ROR2 (raw-token trees, any escaper flavour) and for
JSON (typed tokens).

`okDoc` and `valFor` are junk-valued on purpose: they turn "the writer's loop succeeded" and "keys are
distinct" into "the output is `map` of a total function", which is what the sorting lemmas
(`sortByKey_mapVal`) speak about. -/
namespace Restli.Codec
open Json (JVal)

/-- how a wire format presents a document as a parsed tree -/
structure TreeEnc where
  /-- how the reader interprets leaves and member names -/
  sem : LeafSem
  /-- the member-name token written for a key -/
  key : Bytes → Bytes
  /-- the tree of a leaf document (int, float, bool, string, bytes) -/
  leaf : Doc → JVal

mutual
def treeOf (E : TreeEnc) : Doc → JVal
  | .obj kvs => .obj (treeOfKvs E kvs)
  | .arr xs => .arr (treeOfItems E xs)
  | .int v => E.leaf (.int v)
  | .f64 b => E.leaf (.f64 b)
  | .bool b => E.leaf (.bool b)
  | .str b => E.leaf (.str b)
  | .bytes b => E.leaf (.bytes b)
def treeOfKvs (E : TreeEnc) : List (Bytes × Doc) → List (Bytes × JVal)
  | [] => []
  | (k, v) :: rest => (E.key k, treeOf E v) :: treeOfKvs E rest
def treeOfItems (E : TreeEnc) : List Doc → List JVal
  | [] => []
  | v :: rest => treeOf E v :: treeOfItems E rest
end

/-- the document an element encoder produced (junk when it failed; only used under a success
hypothesis) -/
def okDoc (r : Except EncErr Doc) : Doc := match r with | .ok d => d | .error _ => .arr []

theorem bind_ok {ε α β : Type} {x : Except ε α} {f : α → Except ε β} {b : β}
    (h : x >>= f = .ok b) : ∃ a, x = .ok a ∧ f a = .ok b := by
  cases x with
  | error e => cases h
  | ok a => exact ⟨a, rfl, h⟩

theorem encodeTyped_all (enc : Bytes → Ty → Value → Except EncErr Doc) :
    ∀ (items : List (Bytes × Ty × Value)) (kvs : List (Bytes × Doc)),
      encodeTyped (fun _ => false) enc items = .ok kvs →
      kvs = items.map (fun it => (it.1, okDoc (enc it.1 it.2.1 it.2.2))) ∧
      ∀ it ∈ items, enc it.1 it.2.1 it.2.2 = .ok (okDoc (enc it.1 it.2.1 it.2.2)) := by
  intro items
  induction items with
  | nil => intro kvs h; cases h; exact ⟨rfl, fun _ h => nomatch h⟩
  | cons x xs ih =>
    obtain ⟨k, t, v⟩ := x
    intro kvs h
    obtain ⟨d, hd, h⟩ := bind_ok h
    obtain ⟨more, hm, h⟩ := bind_ok h
    cases h
    obtain ⟨h1, h2⟩ := ih more hm
    refine ⟨by rw [List.map_cons, hd, h1]; rfl, fun it hit => ?_⟩
    rcases List.mem_cons.1 hit with rfl | hit
    · rw [hd]; rfl
    · exact h2 it hit

theorem encodeKeyed_eq_encodeTyped (excluded : Bytes → Bool) (enc : Bytes → Ty → Value → Except EncErr Doc)
    (t : Ty) (es : List (Bytes × Value)) :
    encodeKeyed excluded (fun k v => enc k t v) es = encodeTyped excluded enc (es.map (fun e => (e.1, t, e.2))) := by
  induction es with
  | nil => rfl
  | cons e es ih => simp only [encodeKeyed, List.map_cons, encodeTyped, ih]

theorem encodeList_all (enc : Value → Except EncErr Doc) :
    ∀ (vs : List Value) (ds : List Doc), encodeList enc vs = .ok ds →
      ds = vs.map (fun v => okDoc (enc v)) ∧ ∀ v ∈ vs, enc v = .ok (okDoc (enc v)) := by
  intro vs
  induction vs with
  | nil => intro ds h; cases h; exact ⟨rfl, fun _ h => nomatch h⟩
  | cons x xs ih =>
    intro ds h
    obtain ⟨d, hd, h⟩ := bind_ok h
    obtain ⟨more, hm, h⟩ := bind_ok h
    cases h
    obtain ⟨h1, h2⟩ := ih more hm
    refine ⟨by rw [List.map_cons, hd, h1]; rfl, fun v hv => ?_⟩
    rcases List.mem_cons.1 hv with rfl | hv
    · rw [hd]; rfl
    · exact h2 v hv

theorem any_key_false {β : Type} {m : List (Bytes × β)} {k : Bytes} (h : k ∉ m.map (·.1)) :
    m.any (·.1 == k) = false :=
  List.any_eq_false.2 fun e he heq => h (List.mem_map.2 ⟨e, he, beq_iff_eq.1 heq⟩)

theorem setEntry_fresh {acc : List (Bytes × Value)} {k : Bytes} {v : Value}
    (h : k ∉ acc.map (·.1)) : setEntry acc k v = acc ++ [(k, v)] := by
  rw [setEntry, any_key_false h]
  rfl

/-- moving the next key of a duplicate-free run over to the keys already seen -/
theorem nodup_append_cons {α : Type} {l₁ l₂ : List α} {a : α} (h : (l₁ ++ a :: l₂).Nodup) :
    a ∉ l₁ ∧ ((l₁ ++ [a]) ++ l₂).Nodup :=
  ⟨fun ha => (List.nodup_append.1 h).2.2 a ha a List.mem_cons_self rfl, by rwa [List.append_assoc]⟩

theorem treeOf_ne_null (E : TreeEnc) (hnn : ∀ d, E.leaf d ≠ .null) (d : Doc) : treeOf E d ≠ .null := by
  cases d <;> simp [treeOf] <;> exact hnn _

theorem treeReadEntries_eq_map (E : TreeEnc) (hnn : ∀ d, E.leaf d ≠ .null) (tc : TCfg)
    (hkey : ∀ k, tc.sem.key (E.key k) = some k) (htr : ∀ sc, tc.tracker.check sc = .no)
    (scope : List Seg) (mode : MapMode) (g : Bytes → Value) :
    ∀ (kvs : List (Bytes × Doc)),
      (∀ e ∈ kvs, ∀ acc seen,
        treeCallbackWith (fun ty => treeRead tc false (scope ++ [Seg.key e.1]) ty (treeOf E e.2)) mode acc seen e.1 =
          .ok (setEntry acc e.1 (g e.1)) []) →
      ∀ acc seen, (acc.map (·.1) ++ kvs.map (·.1)).Nodup →
        treeReadEntries tc scope mode acc seen (treeOfKvs E kvs) =
          .ok (acc ++ kvs.map (fun e => (e.1, g e.1)), seen ++ kvs.map (·.1)) [] := by
  intro kvs
  induction kvs with
  | nil => intro _ acc seen _; simp [treeOfKvs, treeReadEntries]
  | cons e rest ih =>
    obtain ⟨k, d⟩ := e
    intro hread acc seen hnd
    obtain ⟨hfresh, hnd'⟩ := nodup_append_cons hnd
    rw [treeOfKvs, treeReadEntries_cons _ _ _ _ _ _ _ _ (treeOf_ne_null E hnn d), hkey k]
    simp only [htr]
    rw [hread (k, d) (List.mem_cons_self ..) acc seen, setEntry_fresh hfresh, bindT,
      ih (fun e he => hread e (List.mem_cons_of_mem _ he)) _ _ (by rwa [List.map_append])]
    simp [bindT]

theorem treeReadItems_eq_map (E : TreeEnc) (tc : TCfg) (scope : List Seg) (ty : Ty) (d : Value → Doc) (g : Value → Value) :
    ∀ (vs : List Value) (idx : Nat),
      (∀ v ∈ vs, ∀ i, treeRead tc false (scope ++ [Seg.idx i]) ty (treeOf E (d v)) = .ok (g v) []) →
      treeReadItems tc scope ty idx (treeOfItems E (vs.map d)) = .ok (vs.map g) [] := by
  intro vs
  induction vs with
  | nil => intro _ _; rfl
  | cons v rest ih =>
    intro idx h
    rw [List.map_cons, treeOfItems, treeReadItems, h v (List.mem_cons_self ..) idx, bindT,
      ih (idx + 1) (fun v' hv' => h v' (List.mem_cons_of_mem _ hv'))]
    rfl

/-- what the round trip needs of a format: keys and leaves read back -/
structure TreeLaws (E : TreeEnc) : Prop where
  key_rt : ∀ k, E.sem.key (E.key k) = some k
  leaf_ne_null : ∀ d, E.leaf d ≠ .null
  prim_rt : ∀ p v doc, ValOK v → encPrim p v = .ok doc → E.sem.prim p (E.leaf doc) = .ok (normPrim p v) []
  str_rt : ∀ s, E.sem.str (E.leaf (.str s)) = .ok s []

/-- everything the round trip is relative to -/
structure RTCtx where
  env : Env
  enc : TreeEnc
  L : TreeLaws enc
  S : SchemaOK env

/-- the writer: no exclusion spec, v2 key sorting -/
def RTCtx.cfg (X : RTCtx) : EncCfg := { env := X.env, excl := .empty, sortKeys := true }
/-- the matching reader -/
def RTCtx.tc (X : RTCtx) (ign : Nat) : TCfg :=
  { env := X.env, tracker := { excl := .empty, ignore := ign }, sem := X.enc.sem }

theorem RTCtx.cfg_env (X : RTCtx) : X.cfg.env = X.env := rfl
theorem RTCtx.cfg_finish (X : RTCtx) (kvs : List (Bytes × Doc)) : X.cfg.finish kvs = .obj (sortByKey kvs) := rfl
theorem RTCtx.cfg_noexcl (X : RTCtx) (path : List Bytes) : X.cfg.excl.matchesB path = false :=
  matchesB_empty path
theorem RTCtx.tc_env (X : RTCtx) (ign : Nat) : (X.tc ign).env = X.env := rfl

theorem RTCtx.htr (X : RTCtx) (ign : Nat) (sc : List Seg) : (X.tc ign).tracker.check sc = .no :=
  tracker_check_empty ign sc

theorem RTCtx.hkey (X : RTCtx) (ign : Nat) (k : Bytes) : (X.tc ign).sem.key (X.enc.key k) = some k :=
  X.L.key_rt k

theorem encPrim_leaf (E : TreeEnc) (p : Prim) (v : Value) (doc : Doc) (h : encPrim p v = .ok doc) :
    treeOf E doc = E.leaf doc := by
  unfold encPrim at h
  split at h <;> cases h <;> rfl

theorem prim_roundtrip (X : RTCtx) (p : Prim) (v : Value) (doc : Doc) (hv : ValOK v)
    (h : encPrim p v = .ok doc) :
    X.enc.sem.prim p (treeOf X.enc doc) = .ok (normPrim p v) [] := by
  rw [encPrim_leaf X.enc p v doc h]
  exact X.L.prim_rt p v doc hv h

theorem find?_key_of_nodup {α κ : Type} [BEq κ] [LawfulBEq κ] (key : α → κ) (l : List α)
    (hnd : (l.map key).Nodup) (a : α) (ha : a ∈ l) : l.find? (fun x => key x == key a) = some a := by
  induction l with
  | nil => cases ha
  | cons x xs ih =>
    rw [List.map_cons, List.nodup_cons] at hnd
    rcases List.mem_cons.1 ha with rfl | ha'
    · rw [List.find?, beq_self_eq_true]
    · have hne : (key x == key a) = false :=
        beq_eq_false_iff_ne.mpr (fun heq => hnd.1 (heq ▸ List.mem_map_of_mem ha'))
      rw [List.find?, hne]
      exact ih hnd.2 ha'

/-- the (normalised) value of the entry with key `k` -/
def valFor (g : Bytes × Ty × Value → Value) (items : List (Bytes × Ty × Value)) (k : Bytes) : Value :=
  match items.find? (fun it => it.1 == k) with
  | some it => g it
  | none => .arr []

theorem valFor_mem (g : Bytes × Ty × Value → Value) (items : List (Bytes × Ty × Value))
    (hnd : (items.map (·.1)).Nodup) (it : Bytes × Ty × Value) (hit : it ∈ items) :
    valFor g items it.1 = g it := by
  unfold valFor
  rw [find?_key_of_nodup (·.1) items hnd it hit]

theorem findField_of_nodup (fields : List Field) (hnd : (fields.map (·.name)).Nodup) (fld : Field)
    (h : fld ∈ fields) : findField fields fld.name = some fld :=
  find?_key_of_nodup Field.name fields hnd fld h

theorem idxOf?_of_nodup (l : List Bytes) (hnd : l.Nodup) (i : Nat) (s : Bytes) (h : l[i]? = some s) :
    l.idxOf? s = some i := by
  obtain ⟨hi, rfl⟩ := List.getElem?_eq_some_iff.1 h
  exact List.idxOf?_eq_some_iff.2 ⟨hi, rfl, fun j hj heq => Nat.ne_of_lt hj ((List.getElem_inj hnd).1 heq)⟩

theorem setFields_spec : ∀ (fields : List Field) (fs : List (Bytes × Value)) (triples : List (Bytes × Ty × Value)),
    setFields fields fs = some triples →
    (triples.map (·.1)).Sublist (fields.map (·.name)) ∧
    (∀ t ∈ triples, ∃ fld ∈ fields, fld.name = t.1 ∧ fld.ty = t.2.1 ∧ Value.lookup fs t.1 = some t.2.2) ∧
    (∀ fld ∈ fields, fld.optOrDefault = false → fld.name ∈ triples.map (·.1)) := by
  intro fields fs
  induction fields with
  | nil =>
    intro triples h
    cases h
    exact ⟨List.Sublist.refl _, fun _ h => (by cases h), fun _ h => (by cases h)⟩
  | cons fld rest ih =>
    intro triples h
    rw [setFields] at h
    split at h
    · next hl =>
      -- unset: only an optional or defaulted field may be skipped
      split at h
      · next ho =>
        obtain ⟨h1, h2, h3⟩ := ih triples h
        refine ⟨h1.cons fld.name, fun t ht => ?_, fun g hg hopt => ?_⟩
        · obtain ⟨g, hg, hh⟩ := h2 t ht
          exact ⟨g, List.mem_cons_of_mem _ hg, hh⟩
        · rcases List.mem_cons.1 hg with rfl | hg
          · rw [ho] at hopt; cases hopt
          · exact h3 g hg hopt
      · cases h
    · next v hl =>
      obtain ⟨tr, htr, rfl⟩ := Option.map_eq_some_iff.1 h
      obtain ⟨h1, h2, h3⟩ := ih tr htr
      refine ⟨h1.cons_cons fld.name, fun t ht => ?_, fun g hg hopt => ?_⟩
      · rcases List.mem_cons.1 ht with rfl | ht
        · exact ⟨fld, List.mem_cons_self .., rfl, rfl, hl⟩
        · obtain ⟨g, hg, hh⟩ := h2 t ht
          exact ⟨g, List.mem_cons_of_mem _ hg, hh⟩
      · rcases List.mem_cons.1 hg with rfl | hg
        · exact List.mem_cons_self ..
        · exact List.mem_cons_of_mem _ (h3 g hg hopt)

theorem fillRequired_id (env : Env) (fields : List Field) (acc : List (Bytes × Value))
    (h : ∀ fld ∈ fields, fld.optOrDefault = false → fld.name ∈ acc.map (·.1)) :
    fillRequired env fields acc = acc := by
  unfold fillRequired
  induction fields with
  | nil => rfl
  | cons x xs ih =>
    simp only [List.foldl_cons]
    have : (x.optOrDefault || acc.any (·.1 == x.name)) = true := by
      cases ho : x.optOrDefault with
      | true => simp
      | false =>
        obtain ⟨e, he, hname⟩ := List.mem_map.1 (h x List.mem_cons_self ho)
        exact List.any_eq_true.2 ⟨e, he, beq_iff_eq.2 hname⟩
    simp only [this, ↓reduceIte]
    exact ih (fun fld hf => h fld (by simp [hf]))

theorem remainingRequired_nil (fields : List Field) (seen : List Bytes)
    (h : ∀ fld ∈ fields, fld.optOrDefault = false → fld.name ∈ seen) :
    remainingRequired fields seen = [] := by
  unfold remainingRequired
  simp only [List.filter_eq_nil_iff, List.mem_map, List.mem_filter]
  rintro r ⟨fld, ⟨hf, ho⟩, rfl⟩
  have := h fld hf (by simpa using ho)
  simp [this]

/-- when every required field was seen and is set, the epilogue of `readRecord` reports nothing
and only fills in the defaults -/
theorem finishRecord_complete (env : Env) (tr : Tracker) (scope : List Seg) (top : Bool) {fields : List Field}
    (own : List Field) {fs : List (Bytes × Value)}
    (hseen : ∀ fld ∈ fields, fld.optOrDefault = false → fld.name ∈ fs.map (·.1)) :
    finishRecord env tr scope top fields own fs (fs.map (·.1)) [] = .ok (.record (populateDefaults own fs)) [] := by
  simp [finishRecord, finishPanics, missingAfter, remainingRequired_nil fields _ hseen,
    fillRequired_id env fields fs hseen]

theorem setMembers_length (members : List (Bytes × Ty)) (ms : List (Bytes × Value)) :
    (setMembers members ms).length = countSet ms members := by
  unfold setMembers countSet
  induction members with
  | nil => rfl
  | cons m rest ih =>
    simp only [List.filterMap_cons, List.filter_cons]
    cases hl : Value.lookup ms m.1 <;> simp [ih]

theorem setMembers_mem (members : List (Bytes × Ty)) (ms : List (Bytes × Value)) (t : Bytes × Ty × Value)
    (h : t ∈ setMembers members ms) : (t.1, t.2.1) ∈ members ∧ Value.lookup ms t.1 = some t.2.2 := by
  unfold setMembers at h
  simp only [List.mem_filterMap, Option.map_eq_some_iff] at h
  obtain ⟨m, hm, v, hv, rfl⟩ := h
  exact ⟨hm, hv⟩

theorem encodeTyped_cfg (X : RTCtx) (f : Nat) (sc : List Bytes) (items : List (Bytes × Ty × Value))
    (kvs : List (Bytes × Doc))
    (h : encodeTyped (fun k => X.cfg.excl.matchesB (sc ++ [k]))
      (fun k t v => if X.cfg.excl.matchesB (sc ++ [k]) then encodeNoop X.cfg.env t v
        else encode X.cfg f (sc ++ [k]) t v) items = .ok kvs) :
    kvs = items.map (fun it => (it.1, okDoc (encode X.cfg f (sc ++ [it.1]) it.2.1 it.2.2))) ∧
    ∀ it ∈ items, encode X.cfg f (sc ++ [it.1]) it.2.1 it.2.2 =
      .ok (okDoc (encode X.cfg f (sc ++ [it.1]) it.2.1 it.2.2)) := by
  simp only [RTCtx.cfg_noexcl, Bool.false_eq_true, ↓reduceIte] at h
  exact encodeTyped_all _ items kvs h

/-- keyed containers (record fields, map entries): reading back the sorted entries, given the
round trip of each entry one level down and that the reader's callback reads member `k` at the
type the writer visited it with -/
theorem keyed_roundtrip (X : RTCtx) (ign f : Nat)
    (ih : ∀ scopeW scopeR top ty v doc, ValOK v → encode X.cfg f scopeW ty v = .ok doc →
      treeRead (X.tc ign) top scopeR ty (treeOf X.enc doc) = .ok (norm X.env f ty v) [])
    (sc : List Bytes) (scopeR : List Seg) (mode : MapMode) (items : List (Bytes × Ty × Value))
    (kvs : List (Bytes × Doc))
    (henc : encodeTyped (fun k => X.cfg.excl.matchesB (sc ++ [k]))
      (fun k t v => if X.cfg.excl.matchesB (sc ++ [k]) then encodeNoop X.cfg.env t v
        else encode X.cfg f (sc ++ [k]) t v) items = .ok kvs)
    (hnd : (items.map (·.1)).Nodup) (hv : ∀ it ∈ items, ValOK it.2.2)
    (hmode : ∀ it ∈ items, ∀ rd acc seen, treeCallbackWith rd mode acc seen it.1 =
      bindT (rd it.2.1) (fun x m => .ok (setEntry acc it.1 x) m)) :
    treeReadEntries (X.tc ign) scopeR mode [] [] (treeOfKvs X.enc (sortByKey kvs)) =
      .ok (sortByKey (items.map (fun it => (it.1, norm X.env f it.2.1 it.2.2))),
        (sortByKey (items.map (fun it => (it.1, norm X.env f it.2.1 it.2.2)))).map (·.1)) [] := by
  obtain ⟨hkvs, hall⟩ := encodeTyped_cfg X f sc items kvs henc
  have hknd : KeysNodup kvs := by
    rw [hkvs, KeysNodup, List.map_map]; exact hnd
  -- distinct keys make the value a function of the key
  let g := valFor (fun it => norm X.env f it.2.1 it.2.2) items
  have hg : ∀ it ∈ items, g it.1 = norm X.env f it.2.1 it.2.2 := valFor_mem _ items hnd
  have hsorted : (sortByKey kvs).map (fun e => (e.1, g e.1)) =
      sortByKey (items.map (fun it => (it.1, norm X.env f it.2.1 it.2.2))) := by
    rw [← sortByKey_mapVal (fun k _ => g k) kvs, hkvs, List.map_map]
    exact congrArg sortByKey (List.map_congr_left (fun it hit => congrArg (Prod.mk it.1) (hg it hit)))
  rw [← hsorted, List.map_map,
    treeReadEntries_eq_map X.enc X.L.leaf_ne_null (X.tc ign) (X.hkey ign) (X.htr ign) scopeR mode g (sortByKey kvs)
      ?_ [] [] (keysNodup_sortByKey kvs hknd)]
  · rfl
  · intro e he acc seen
    rw [mem_sortByKey, hkvs] at he
    obtain ⟨it, hit, rfl⟩ := List.mem_map.1 he
    rw [hmode it hit, ih _ _ false _ _ _ (hv it hit) (hall it hit)]
    exact congrArg (fun x => TRes.ok (setEntry acc it.1 x) []) (hg it hit).symm

theorem roundtrip_tree (X : RTCtx) (ign : Nat) : ∀ (f : Nat) (scopeW : List Bytes) (scopeR : List Seg)
    (top : Bool) (ty : Ty) (v : Value) (doc : Doc), ValOK v →
    encode X.cfg f scopeW ty v = .ok doc →
    treeRead (X.tc ign) top scopeR ty (treeOf X.enc doc) = .ok (norm X.env f ty v) [] := by
  intro f
  -- `fun_cases` wants the fuel as a variable, hence the induction hypothesis for every smaller fuel
  induction f using Nat.strongRecOn with | _ f ih => ?_
  intro scopeW scopeR top ty v doc hv h
  revert h
  -- follow the writer: one case per way `encode` can return, numbered in the order of its branches
  fun_cases encode X.cfg f scopeW ty v
  case case2 f p => -- primitive
    intro h
    rw [treeRead, norm]
    exact prim_roundtrip X p v doc hv h
  case case3 f t vs => -- array
    intro h
    obtain ⟨ds, hl, h⟩ := bind_ok h
    cases h
    obtain ⟨rfl, hall⟩ := encodeList_all _ vs ds hl
    have hvs := valOKList_mem vs hv
    rw [treeOf, treeRead, norm, treeReadItems_eq_map X.enc (X.tc ign) scopeR t _ (norm X.env f t) vs 0
      (fun v hv i => ih f (Nat.lt_succ_self f) _ _ false t v _ (hvs v hv) (hall v hv))]
    rfl
  case case4 f t es => -- map
    intro h
    rw [encodeKeyed_eq_encodeTyped _ (fun k t v => if X.cfg.excl.matchesB (scopeW ++ [k]) then encodeNoop X.cfg.env t v
      else encode X.cfg f (scopeW ++ [k]) t v) t es] at h
    obtain ⟨kvs, hl, h⟩ := bind_ok h
    cases h
    rw [ValOK] at hv
    have hvs := valOKKvs_mem es hv.2
    rw [RTCtx.cfg_finish, treeOf, treeRead, norm,
      keyed_roundtrip X ign f (ih f (Nat.lt_succ_self f)) scopeW scopeR (.mapOf t) _ kvs hl
        (by rw [List.map_map]; exact hv.1)
        (fun it hit => by obtain ⟨e, he, rfl⟩ := List.mem_map.1 hit; exact hvs e he)
        (fun it hit rd acc seen => by obtain ⟨e, he, rfl⟩ := List.mem_map.1 hit; rfl),
      List.map_map]
    rfl
  case case5 f n p hfind => -- typeref
    intro h
    rw [RTCtx.cfg_env] at hfind
    simp only [treeRead, norm, RTCtx.tc_env, hfind]
    exact prim_roundtrip X p v doc hv h
  case case6 f n syms k hfind hk s hs => -- enum
    intro h
    cases h
    rw [RTCtx.cfg_env] at hfind
    have hstr : (X.tc ign).sem.str (treeOf X.enc (.str s)) = .ok s [] := X.L.str_rt s
    simp only [treeRead, norm, RTCtx.tc_env, hfind, hstr, bindT,
      idxOf?_of_nodup syms (X.S.enumNodup n syms hfind) _ s hs]
    congr 2
    omega
  case case9 f n b hfind => -- fixed
    intro h
    cases h
    rw [RTCtx.cfg_env] at hfind
    have hb : (X.tc ign).sem.prim .bytes (treeOf X.enc (.bytes b)) = .ok (.bytes b) [] :=
      X.L.prim_rt .bytes (.bytes b) (.bytes b) trivial rfl
    simp only [treeRead, norm, RTCtx.tc_env, hfind, hb, bindT, ↓reduceIte]
  case case12 f n incs own fs hfind triples hsf => -- record
    intro h
    obtain ⟨kvs, hl, h⟩ := bind_ok h
    cases h
    rw [RTCtx.cfg_env] at hfind hsf
    obtain ⟨hsub, hmem, hreq⟩ := setFields_spec _ fs triples hsf
    have hfnd := X.S.fieldsNodup n incs own hfind
    rw [ValOK] at hv
    simp only [RTCtx.cfg_finish, treeOf, treeRead, norm, RTCtx.tc_env, hfind, hsf]
    rw [keyed_roundtrip X ign f (ih f (Nat.lt_succ_self f)) scopeW scopeR (.record _) triples kvs hl
      (hsub.nodup hfnd) (fun it hit => by obtain ⟨_, _, _, _, hlk⟩ := hmem it hit; exact lookup_valOK fs hv _ _ hlk)
      (fun it hit rd acc seen => by
        obtain ⟨fld, hfld, hname, hty, _⟩ := hmem it hit
        rw [treeCallbackWith, ← hname, findField_of_nodup _ hfnd fld hfld, ← hty])]
    have hkeys : ∀ fld ∈ allFields X.env (includeFuel X.env) n, fld.optOrDefault = false → fld.name ∈
        (sortByKey (triples.map (fun it => (it.1, norm X.env f it.2.1 it.2.2)))).map (·.1) := by
      intro fld hf ho
      rw [((keys_sortByKey_perm _).map (·.1)).mem_iff, List.map_map]
      exact hreq fld hf ho
    rw [bindT, finishRecord_complete _ _ _ _ _ hkeys]
  case case15 f n hasNull members ms hfind hle hzero => -- union
    intro h
    obtain ⟨kvs, hl, h⟩ := bind_ok h
    cases h
    obtain ⟨rfl, hall⟩ := encodeTyped_cfg X f scopeW _ kvs hl
    rw [RTCtx.cfg_env] at hfind
    rw [ValOK] at hv
    have hlen := setMembers_length members ms
    have hmem := setMembers_mem members ms
    simp only [RTCtx.cfg_finish, treeOf, treeRead, norm, RTCtx.tc_env, hfind]
    -- at most one member is set
    generalize setMembers members ms = sm at hlen hmem hall ⊢
    cases sm with
    | nil =>
      have hn : hasNull = true := by simpa [← hlen] using hzero
      simp [sortByKey, treeOfKvs, treeReadEntries, bindT, hn]
    | cons t rest =>
      cases rest with
      | cons _ _ => simp only [List.length_cons] at hlen; omega
      | nil =>
        obtain ⟨hm, hlk⟩ := hmem t (List.mem_singleton_self t)
        have hlook : members.lookup t.1 = some t.2.1 :=
          lookup_of_mem (X.S.membersNodup n hasNull members hfind) hm
        simp only [List.map_cons, List.map_nil, sortByKey, insertByKey, treeOfKvs]
        rw [treeReadEntries_cons _ _ _ _ _ _ _ _ (treeOf_ne_null X.enc X.L.leaf_ne_null _), X.hkey ign]
        simp only [X.htr ign, treeCallbackWith, List.isEmpty_nil, Bool.not_true, Bool.false_eq_true,
          ↓reduceIte, hlook]
        rw [ih f (Nat.lt_succ_self f) _ _ false t.2.1 t.2.2 _ (lookup_valOK ms hv _ _ hlk)
          (hall t (List.mem_singleton_self t))]
        simp [bindT, treeReadEntries, setEntry]
  -- the other nine cases (out of fuel, undeclared enum constant, wrong length, ill-typed value, bad union)
  -- are those in which the writer fails
  all_goals exact nofun

end Restli.Codec
