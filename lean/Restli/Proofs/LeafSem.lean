import Restli.Model.AnyReader
import Restli.Model.Ror2Tree
import Restli.Proofs.Ror2Eqns
/-! What the tree reader needs to know about a leaf semantics, and that the three leaf semantics
(JSON tokens, ROR2 raw tokens, untyped Go values) provide it: reading a leaf yields a value with
nothing reported missing, an error, or "unmodelled" — never a panic (`TRes.Leaf`, `SemLeaf`).
The theorems about the tree reader ask for less: `SemClean` (the missing-fields specification) or
`SemNoPanic` (no panic); `SemLeaf` gives both, and every semantics of the development is `SemLeaf`. -/
namespace Restli.Codec
open Json (JVal)

theorem bindT_ok {α β : Type} {r : TRes α} {f : α → List Bytes → TRes β} {v : β} {m : List Bytes}
    (h : bindT r f = .ok v m) : ∃ x m0, r = .ok x m0 ∧ f x m0 = .ok v m := by
  cases r with
  | ok x m0 => exact ⟨x, m0, rfl, h⟩
  | _ => cases h

theorem bindT_ok_map {α β : Type} {r : TRes α} {g : α → β} {v : β} {m : List Bytes}
    (h : bindT r (fun x m => .ok (g x) m) = .ok v m) : ∃ x, r = .ok x m := by
  obtain ⟨x, m0, hr, hk⟩ := bindT_ok h
  cases hk
  exact ⟨x, hr⟩

theorem bindT_ne_panic {α β : Type} {r : TRes α} {f : α → List Bytes → TRes β}
    (hr : r ≠ .panic) (hf : ∀ v m, r = .ok v m → f v m ≠ .panic) : bindT r f ≠ .panic := by
  cases r with
  | ok v m => exact hf v m rfl
  | panic => exact absurd rfl hr
  | _ => nofun

inductive TRes.Leaf {α : Type} : TRes α → Prop
  | ok (v : α) : Leaf (.ok v [])
  | err (e : DecErr) : Leaf (.err e)
  | unmodelled : Leaf .unmodelled

theorem TRes.Leaf.clean {α : Type} {r : TRes α} (h : r.Leaf) {v : α} {m : List Bytes}
    (e : r = .ok v m) : m = [] := by
  cases h with
  | ok _ => cases e; rfl
  | _ => cases e

theorem TRes.Leaf.ne_panic {α : Type} {r : TRes α} (h : r.Leaf) : r ≠ .panic := by
  intro e; cases h <;> cases e

structure SemLeaf (sem : LeafSem) : Prop where
  prim : ∀ p t, (sem.prim p t).Leaf
  str : ∀ t, (sem.str t).Leaf

/-- leaves report nothing missing themselves -/
structure SemClean (sem : LeafSem) : Prop where
  prim : ∀ p t v m, sem.prim p t = .ok v m → m = []
  str : ∀ t b m, sem.str t = .ok b m → m = []

structure SemNoPanic (sem : LeafSem) : Prop where
  prim : ∀ p t, sem.prim p t ≠ .panic
  str : ∀ t, sem.str t ≠ .panic

theorem SemLeaf.clean {sem : LeafSem} (h : SemLeaf sem) : SemClean sem :=
  ⟨fun p t _ _ e => (h.prim p t).clean e, fun t _ _ e => (h.str t).clean e⟩

theorem SemLeaf.noPanic {sem : LeafSem} (h : SemLeaf sem) : SemNoPanic sem :=
  ⟨fun p t => (h.prim p t).ne_panic, fun t => (h.str t).ne_panic⟩

/-! Each proof below follows the branches of the definition: every one ends in `.ok _ []`, `.err _` or
`.unmodelled`. -/

theorem jsonPrim_leaf (p : Prim) (t : JVal) : (jsonPrim p t).Leaf := by
  unfold jsonPrim
  split
  · split <;> constructor
  · split <;> constructor
  · constructor
  · constructor
  · simp only []; split <;> constructor
  · split <;> constructor
  · split <;> constructor
  · split <;> constructor
  · split <;> constructor
  · constructor

theorem jsonSem_leaf : SemLeaf jsonSem where
  prim := jsonPrim_leaf
  str := by intro t; simp only [jsonSem]; split <;> constructor

theorem ror2Sem_leaf (plus : Bool) : SemLeaf (ror2Sem plus) where
  prim := by
    intro p t
    simp only [ror2Sem, liftTok]
    split
    · split <;> constructor
    · constructor
  str := by
    intro t
    simp only [ror2Sem]
    split
    · split <;> constructor
    · constructor

theorem anyInt_leaf (bits : Nat) (mk : Int → Value) (t : JVal) : (anyInt bits mk t).Leaf := by
  unfold anyInt
  split
  · split <;> constructor
  · split
    · split <;> constructor
    · split
      · split <;> constructor
      · constructor
  · constructor

theorem anyFloat_leaf (f : Strconv.FloatFmt) (mk : Nat → Value) (t : JVal) : (anyFloat f mk t).Leaf := by
  unfold anyFloat
  split
  · split <;> constructor
  · split
    · split <;> constructor
    · split <;> constructor
  · constructor

theorem anySem_leaf : SemLeaf anySem where
  prim := by
    intro p t
    cases p
    case i32 => exact anyInt_leaf _ _ t
    case i64 => exact anyInt_leaf _ _ t
    case f32 => exact anyFloat_leaf _ _ t
    case f64 => exact anyFloat_leaf _ _ t
    case bool =>
      simp only [anySem, anyPrim]
      split
      · split <;> constructor
      · constructor
      · constructor
    case str => simp only [anySem, anyPrim]; split <;> constructor
    case bytes => simp only [anySem, anyPrim]; split <;> constructor
  str := by intro t; simp only [anySem]; split <;> constructor

end Restli.Codec
