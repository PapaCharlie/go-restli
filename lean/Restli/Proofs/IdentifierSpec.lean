import Restli.Model.Identifier
/-! The vocabulary in which `Props/C12.lean` states what `ExportedIdentifier` does: the alphabets, legal
names, exported Go identifiers, a name with every `$` spelled out, the collision classes, and the
facts about the regenerated literals (`Good`) every statement assumes. Definitions only. -/
namespace Restli.Ident
open Restli

/-- a character Go allows inside an identifier (ASCII) -/
def wordChar (c : UInt8) : Bool := isLetter c || isDigit c || c == 95

/-- a non-empty word that starts with an upper-case letter and continues with identifier characters:
an exported Go identifier -/
def exportedWord : Bytes → Bool
  | [] => false
  | h :: t => isUpper h && t.all wordChar

/-- the input alphabet: `[A-Za-z0-9_$]` -/
def identChar (P : Params) (c : UInt8) : Bool :=
  isLetter c || isDigit c || c == P.underscoreChar || c == P.dollarChar

/-- a legal name: non-empty, over the alphabet (a superset of what Pegasus allows: Pegasus additionally
forbids a leading digit and `$`) -/
def Legal (P : Params) (s : Bytes) : Prop := s ≠ [] ∧ ∀ c ∈ s, identChar P c = true

/-- every `$` spelled out the way the loop does it -/
def expandTail (P : Params) : Bytes → Bytes
  | [] => []
  | c :: t => (if c = P.dollarChar then P.dollarSep :: P.dollarWord else [c]) ++ expandTail P t

def expand (P : Params) : Bytes → Bytes
  | [] => []
  | c :: t => (if c = P.dollarChar then P.dollarWord else [c]) ++ expandTail P t

/-- the (directed) collision classes of `$`-free words `x`, `y`, in this order: same word up to the case
of the first letter (`foo` / `Foo`); a digit-initial word and the same word behind `_` (`1a` / `_1a`);
a letter-initial word that spells out, up to the case of its first letter, the prefix `Exported_`
a digit-initial word receives (`exported_1a` / `1a`); the same for the prefix `Exported` of an
underscore-initial word (`Exported_x` / `_x`) -/
def Cls (P : Params) (x y : Bytes) : Prop :=
  (∃ a b t, x = a :: t ∧ y = b :: t ∧ isLetter a = true ∧ isLetter b = true ∧ toUpper a = toUpper b)
  ∨ (∃ d t, isDigit d = true ∧ x = d :: t ∧ y = 95 :: d :: t)
  ∨ (∃ a t d t', isLetter a = true ∧ isDigit d = true ∧ x = a :: t ∧ y = d :: t' ∧
      toUpper a :: t = P.digitPrefix ++ y)
  ∨ (∃ a t t', isLetter a = true ∧ x = a :: t ∧ y = 95 :: t' ∧ toUpper a :: t = P.underscorePrefix ++ y)

/-- the facts about the regenerated literals the theorems rest on (checked by evaluation for both
module generations) -/
structure Good (P : Params) : Prop where
  /-- `Exported_`, written before a leading digit, is an exported identifier -/
  dp : exportedWord P.digitPrefix = true
  /-- `Exported`, written before a leading underscore, is an exported identifier -/
  up : exportedWord P.underscorePrefix = true
  /-- `DOLLAR_`, written for a `$`, is an exported identifier -/
  dw : exportedWord P.dollarWord = true
  sep : wordChar P.dollarSep = true
  /-- the third case of the switch is the underscore, a word character -/
  uc : P.underscoreChar = 95
  dcAscii : ¬ (128 ≤ P.dollarChar)
  /-- the fourth case (`$`) is not shadowed by the first three -/
  dcNotWord : wordChar P.dollarChar = false
  /-- the coincidence of literals behind the `1a` / `_1a` collision: `Exported_` is `Exported` followed
  by an underscore -/
  dpUp : P.digitPrefix = P.underscorePrefix ++ [95]

end Restli.Ident
