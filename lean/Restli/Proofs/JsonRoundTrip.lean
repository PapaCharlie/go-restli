import Restli.Proofs.Ror2RoundTrip
import Restli.Model.RenderJson
import Restli.Proofs.JsonUtf8
/-! The JSON instance of the generic tree round trip: the JSON reader (`treeRead` with `jsonSem`)
applied to the document tree the JSON writers denote returns the normalised value. The step from
the emitted *text* to that tree is `Proofs/JsonDoc.lean`; besides, on every run the independent strict
parser (Lean `Json.parse` and Go `encoding/json`) must read the emitted text as exactly this tree (C03). -/
namespace Restli.Codec
open Json (JVal)

/-- the typed token a JSON writer emits for a leaf -/
def jsonTreeLeaf : Doc → JVal
  | .int v => .num (Strconv.formatInt v)
  | .f64 b =>
    let d := Strconv.decodeBits Strconv.f64 b
    if d.cls == 2 then .str nanB
    else if d.cls == 1 then .str (if d.neg then 45 :: infinityB else infinityB)
    else .num (Strconv.formatFloat64 b)
  | .bool b => .bool b
  | .str b => .str b
  | .bytes b => .str (latin1 b)
  | _ => .str []

def jsonEnc : TreeEnc := { sem := jsonSem, key := id, leaf := jsonTreeLeaf }

/-- what the JSON float32 path needs of the float32/float64 conversions (the reader parses a
float64 and narrows it): widening, canonicalising NaN and narrowing gives the canonical float32 -/
structure ConvLaws : Prop where
  narrow_widen : ∀ b, b < 2 ^ 32 →
    Strconv.convert Strconv.f64 Strconv.f32 (normF Strconv.f64 (Strconv.convert Strconv.f32 Strconv.f64 b)) =
      normF Strconv.f32 b
  widen_lt : ∀ b, b < 2 ^ 32 → Strconv.convert Strconv.f32 Strconv.f64 b < 2 ^ 64

theorem encodeRune_pos (r : Nat) (h : r < 0x800) : 1 ≤ (Utf8.encodeRune r).length := by
  rw [Utf8.encodeRune_scalar r (by omega) (by omega)]
  by_cases hlo : r < 0x80
  · rw [if_pos hlo]; exact Nat.le_refl _
  · rw [if_neg hlo, if_pos h]; exact Nat.le_succ _

theorem runes_encodeRune (r : Nat) (h : r < 0x800) (f : Nat) (rest : Bytes) :
    Utf8.runes (f + 1) (Utf8.encodeRune r ++ rest) = r :: Utf8.runes f rest := by
  have hpos := encodeRune_pos r h
  cases he : Utf8.encodeRune r ++ rest with
  | nil => rw [List.append_eq_nil_iff] at he; rw [he.1] at hpos; cases hpos
  | cons x xs =>
    simp only [Utf8.runes]
    rw [← he, Utf8.decodeRune_encodeRune r h rest]
    simp only [Nat.max_eq_left hpos, List.drop_left]

theorem validGo_encodeRune (r : Nat) (h : r < 0x800) (f : Nat) (rest : Bytes) :
    Utf8.validUtf8.go (f + 1) (Utf8.encodeRune r ++ rest) = Utf8.validUtf8.go f rest := by
  have hpos := encodeRune_pos r h
  cases he : Utf8.encodeRune r ++ rest with
  | nil => rw [List.append_eq_nil_iff] at he; rw [he.1] at hpos; cases hpos
  | cons x xs =>
    have hne : (r == Utf8.runeError) = false := beq_eq_false_iff_ne.2 (by unfold Utf8.runeError; omega)
    simp only [Utf8.validUtf8.go]
    rw [← he, Utf8.decodeRune_encodeRune r h rest]
    simp only [hne, Bool.false_and, Bool.false_eq_true, ↓reduceIte, List.drop_left]

theorem latin1_cons (c : UInt8) (cs : Bytes) : latin1 (c :: cs) = Utf8.encodeRune c.toNat ++ latin1 cs := rfl

theorem latin1_len (b : Bytes) : b.length ≤ (latin1 b).length := by
  induction b with
  | nil => exact Nat.le_refl _
  | cons c cs ih =>
    have := encodeRune_pos c.toNat (by have := c.toNat_lt; omega)
    rw [latin1_cons, List.length_append, List.length_cons]
    omega

theorem runes_latin1 : ∀ (b : Bytes) (fuel : Nat), b.length ≤ fuel → Utf8.runes fuel (latin1 b) = b.map (·.toNat) := by
  intro b fuel hf
  induction b generalizing fuel with
  | nil => cases fuel <;> rfl
  | cons c cs ih =>
    cases fuel with
    | zero => cases hf
    | succ f =>
      rw [latin1_cons, runes_encodeRune _ (by have := c.toNat_lt; omega), ih f (Nat.le_of_succ_le_succ hf)]
      rfl

theorem validGo_latin1 : ∀ (b : Bytes) (fuel : Nat), b.length ≤ fuel → Utf8.validUtf8.go fuel (latin1 b) = true := by
  intro b fuel hf
  induction b generalizing fuel with
  | nil => cases fuel <;> rfl
  | cons c cs ih =>
    cases fuel with
    | zero => cases hf
    | succ f =>
      rw [latin1_cons, validGo_encodeRune _ (by have := c.toNat_lt; omega)]
      exact ih f (Nat.le_of_succ_le_succ hf)

/-- bytes are always written as valid UTF-8 -/
theorem valid_latin1 (b : Bytes) : Utf8.validUtf8 (latin1 b) = true :=
  validGo_latin1 b _ (latin1_len b)

theorem jsonPrim_bytes (b : Bytes) : jsonPrim .bytes (.str (latin1 b)) = .ok (.bytes b) [] := by
  have hr : Utf8.runesOf (latin1 b) = b.map (·.toNat) := runes_latin1 b _ (latin1_len b)
  simp only [jsonPrim, hr]
  have hall : (b.map (·.toNat)).all (· ≤ 0xFF) = true := by
    simp only [List.all_map, List.all_eq_true]
    intro c _
    have := c.toNat_lt
    simp only [Function.comp, decide_eq_true_eq]
    omega
  simp only [hall, ↓reduceIte, List.map_map]
  congr 2
  simp [Function.comp_def]

/-- how a float is written and what tree it denotes. `cls` of `Strconv.decodeBits` is 2 for NaN and 1 for
the infinities: those travel as a string token holding one of the three reserved words (`floatText`);
every other float is the number token `strconv` prints. -/
theorem jsonFloat_cases (b : Nat) :
    (jsonFloat b = Json.jsonString (floatText b) ∧ jsonTreeLeaf (.f64 b) = .str (floatText b) ∧
      Utf8.validUtf8 (floatText b) = true) ∨
    (jsonFloat b = Strconv.formatFloat64 b ∧ jsonTreeLeaf (.f64 b) = .num (floatText b) ∧
      floatText b = Strconv.formatFloat64 b ∧ ((Strconv.decodeBits Strconv.f64 b).cls == 2) = false ∧
      ((Strconv.decodeBits Strconv.f64 b).cls == 1) = false) := by
  have hinf : ∀ neg : Bool, Utf8.validUtf8 (if neg then 45 :: infinityB else infinityB) = true := by decide
  simp only [jsonFloat, jsonTreeLeaf, floatText]
  by_cases h2 : ((Strconv.decodeBits Strconv.f64 b).cls == 2) = true
  · simp only [if_pos h2]; exact Or.inl ⟨trivial, trivial, by decide⟩
  by_cases h1 : ((Strconv.decodeBits Strconv.f64 b).cls == 1) = true
  · simp only [if_neg h2, if_pos h1]; exact Or.inl ⟨trivial, trivial, hinf _⟩
  · simp only [if_neg h2, if_neg h1]
    exact Or.inr ⟨trivial, trivial, trivial, Bool.eq_false_iff.2 h2, Bool.eq_false_iff.2 h1⟩

theorem jsonLaws (F : FloatLaws) (C : ConvLaws) : TreeLaws jsonEnc where
  key_rt := fun k => rfl
  leaf_ne_null := by
    intro d
    cases d <;> simp only [jsonEnc, jsonTreeLeaf, ne_eq, reduceCtorEq, not_false_eq_true]
    rename_i b
    rcases jsonFloat_cases b with ⟨_, e, _⟩ | ⟨_, e, _⟩ <;> simp only [jsonTreeLeaf] at e <;>
      simp only [e, reduceCtorEq, not_false_eq_true]
  prim_rt := by
    intro p v doc hv h
    unfold encPrim at h
    split at h <;> simp only [Except.ok.injEq, reduceCtorEq] at h <;> subst h <;>
      simp only [jsonEnc, jsonSem, normPrim]
    · simp only [ValOK] at hv
      simp [jsonTreeLeaf, jsonPrim, Strconv.parseInt_formatInt 32 _ (by simpa using hv.1) (by simpa using hv.2)]
    · simp only [ValOK] at hv
      simp [jsonTreeLeaf, jsonPrim, Strconv.parseInt_formatInt 64 _ (by simpa using hv.1) (by simpa using hv.2)]
    · -- float32: written widened, parsed as float64, narrowed
      simp only [ValOK] at hv
      rename_i b
      rcases jsonFloat_cases (Strconv.convert Strconv.f32 Strconv.f64 b) with ⟨_, e, _⟩ | ⟨_, e, _⟩ <;>
        simp only [e, jsonPrim, F.rt64 _ (C.widen_lt b hv), C.narrow_widen b hv]
    · simp only [ValOK] at hv
      rename_i b
      rcases jsonFloat_cases b with ⟨_, e, _⟩ | ⟨_, e, _⟩ <;> simp only [e, jsonPrim, F.rt64 b hv]
    · simp [jsonTreeLeaf, jsonPrim]
    · simp [jsonTreeLeaf, jsonPrim]
    · simp only [jsonTreeLeaf]; exact jsonPrim_bytes _
  str_rt := by intro s; simp [jsonEnc, jsonSem, jsonTreeLeaf]

def jsonCtx (env : Env) (F : FloatLaws) (C : ConvLaws) (S : SchemaOK env) : RTCtx :=
  { env := env, enc := jsonEnc, L := jsonLaws F C, S := S }

/-- **JSON round trip at the level of the document tree**: for every schema, type, value and
nesting depth, the generated JSON unmarshaler applied to the tree the JSON writers denote for
`MarshalRestLi(v)` returns `norm v`, reports nothing missing. -/
theorem json_roundtrip_tree (env : Env) (F : FloatLaws) (C : ConvLaws) (S : SchemaOK env) (ign f : Nat)
    (scopeW : List Bytes) (scopeR : List Seg) (top : Bool) (ty : Ty) (v : Value) (doc : Doc)
    (hv : ValOK v) (henc : encode (jsonCtx env F C S).cfg f scopeW ty v = .ok doc) :
    treeRead { env := env, tracker := { excl := .empty, ignore := ign } } top scopeR ty (treeOf jsonEnc doc) =
      .ok (norm env f ty v) [] :=
  roundtrip_tree (jsonCtx env F C S) ign f scopeW scopeR top ty v doc hv henc

/-- `UnmarshalJSON` on a text that starts with `{` and parses to `t` reads the tree `t` -/
theorem unmarshalJson_parsed {c : TCfg} {ty : Ty} {data : Bytes} {t : Json.JVal} (h123 : data.head? = some 123)
    (h : Json.parse data = some t) : unmarshalJson c ty data = some (treeRead c true [] ty t) := by
  cases data with
  | nil => cases h123
  | cons x tl =>
    have hnn : (x :: tl == nullLit) = false :=
      beq_eq_false_iff_ne.2 fun e => absurd ((List.cons.inj e).1 ▸ Option.some.inj h123) (by decide)
    simp only [unmarshalJson, List.isEmpty_cons, hnn, Bool.or_self, Bool.false_eq_true, ↓reduceIte, h]

end Restli.Codec
