import Restli.Model.LazyMap
/-! Invariants of the lazy-map transition system and their preservation (C18). Everything is for arbitrary programs, thread counts and schedules.

The per-thread invariant `PcInv` and the per-event invariant `EvOk` speak of the shared state only
(cells, placeholders, ghost counters), never of other threads. `Effect` says what one atomic step
may do to that shared state; it is established once from the shape of the step and is all that
the other threads and the old trace events need to know about a step. -/
namespace Restli.LazyMap

/-- a thread at this pc installed placeholder `q` (by `LoadOrStore` or `Store`) and has not yet
called `Done` on it -/
def Pc.owns : Pc → Nat → Bool
  | .compute p, q => p == q
  | .rawStore p _, q => p == q
  | .signal p _, q => p == q
  | _, _ => false

/-- a thread at this pc installed placeholder `q` and has not yet done its raw store -/
def Pc.preStore : Pc → Nat → Bool
  | .compute p, q => p == q
  | .rawStore p _, q => p == q
  | _, _ => false

@[simp] theorem owns_start (q) : Pc.owns .start q = false := rfl
@[simp] theorem owns_wait (p q) : Pc.owns (.wait p) q = false := rfl
@[simp] theorem owns_final (q) : Pc.owns .finalStore q = false := rfl
@[simp] theorem owns_compute (p q) : Pc.owns (.compute p) q = (p == q) := rfl
@[simp] theorem owns_raw (p v q) : Pc.owns (.rawStore p v) q = (p == q) := rfl
@[simp] theorem owns_signal (p v q) : Pc.owns (.signal p v) q = (p == q) := rfl
@[simp] theorem pre_start (q) : Pc.preStore .start q = false := rfl
@[simp] theorem pre_wait (p q) : Pc.preStore (.wait p) q = false := rfl
@[simp] theorem pre_final (q) : Pc.preStore .finalStore q = false := rfl
@[simp] theorem pre_compute (p q) : Pc.preStore (.compute p) q = (p == q) := rfl
@[simp] theorem pre_raw (p v q) : Pc.preStore (.rawStore p v) q = (p == q) := rfl
@[simp] theorem pre_signal (p v q) : Pc.preStore (.signal p v) q = false := rfl

theorem owns_compute_raw (p v q : Nat) : Pc.owns (.rawStore p v) q = Pc.owns (.compute p) q := rfl

def Cell.isVal : Cell → Bool
  | .val _ => true | _ => false

@[simp] theorem isVal_val (v) : Cell.isVal (.val v) = true := rfl
@[simp] theorem isVal_infl (p) : Cell.isVal (.infl p) = false := rfl
@[simp] theorem isVal_absent : Cell.isVal .absent = false := rfl

def Via.pid? : Via → Option Nat
  | .direct => none
  | .own p => some p
  | .waited p => some p

theorem setCell_same {s : Sys} {k : Nat} {c : Cell} : (setCell s k c).cell k = c := if_pos rfl

theorem setCell_cell (s : Sys) (k : Nat) (c : Cell) (k' : Nat) :
    (k' = k ∧ (setCell s k c).cell k' = c) ∨ (k' ≠ k ∧ (setCell s k c).cell k' = s.cell k') := by
  by_cases h : k' = k
  · exact .inl ⟨h, if_pos h⟩
  · exact .inr ⟨h, if_neg h⟩

theorem setPh_same {s : Sys} {p : Nat} {h : PH} : (setPh s p h).ph p = h := if_pos rfl

theorem setPh_ph (s : Sys) (p : Nat) (h : PH) (p' : Nat) :
    (p' = p ∧ (setPh s p h).ph p' = h) ∨ (p' ≠ p ∧ (setPh s p h).ph p' = s.ph p') := by
  by_cases e : p' = p
  · exact .inl ⟨e, if_pos e⟩
  · exact .inr ⟨e, if_neg e⟩

theorem bump_same {f : Nat → Nat} {k : Nat} : bump f k k = f k + 1 := if_pos rfl

theorem bump_other (f : Nat → Nat) {k k' : Nat} (h : k' ≠ k) : bump f k k' = f k' := if_neg h

/-- the value a `LoadOrStore`/`Store` would put into the map (`0` for a `Load`, which writes
nothing: every use is under `op.isLoad = false`) -/
def Op.value : Op → Nat
  | .los _ fv => fv | .store _ v => v | .load _ => 0

/-- the shared state after a new placeholder has been installed for key `k` (the record
`stepOp` builds at `start` on an absent key) -/
def install (s : Sys) (k : Nat) : Sys :=
  { setCell s k (.infl s.nextPid) with
    nextPid := s.nextPid + 1, placed := bump s.placed k,
    phOf := fun k' => if k' = k then some s.nextPid else s.phOf k' }

theorem install_phOf_same {s : Sys} {k : Nat} : (install s k).phOf k = some s.nextPid := if_pos rfl

theorem install_phOf_other (s : Sys) {k k' : Nat} (h : k' ≠ k) :
    (install s k).phOf k' = s.phOf k' := if_neg h

/-- The kinds of atomic step (what `stepOp` does, as a relation with explicit effects). -/
inductive Shape (s : Sys) (op : Op) : Pc → Sys → Next → Prop
  | loadMissing : op.isLoad = true → s.cell op.key = .absent →
      Shape s op .start s (.fin .missing .direct)
  | foundVal (v : Nat) : op.isStore = false → s.cell op.key = .val v →
      Shape s op .start s (.fin (.val v) .direct)
  | toWait (q : Nat) : s.cell op.key = .infl q →
      Shape s op .start s (.goto (.wait q))
  | install : op.isLoad = false → s.cell op.key = .absent →
      Shape s op .start (install s op.key) (.goto (.compute s.nextPid))
  | storeFound (w : Nat) : op.isStore = true → s.cell op.key = .val w →
      Shape s op .start s (.goto .finalStore)
  | compute (p : Nat) : op.isLoad = false →
      Shape s op (.compute p)
        { setPh s p { (s.ph p) with v := some op.value } with
          computes := if op.isStore then s.computes else bump s.computes op.key }
        (.goto (.rawStore p op.value))
  | rawStore (p : Nat) (v : Nat) :
      Shape s op (.rawStore p v) (setCell s op.key (.val v)) (.goto (.signal p v))
  | signal (p : Nat) (v : Nat) :
      Shape s op (.signal p v) (setPh s p { (s.ph p) with done := true })
        (.fin (if op.isStore then .unit else .val v) (.own p))
  | wakeStore (q : Nat) : (s.ph q).done = true → op.isStore = true →
      Shape s op (.wait q) s (.goto .finalStore)
  | wakeRet (q : Nat) : (s.ph q).done = true → op.isStore = false →
      Shape s op (.wait q) s (.fin (retOfPh (s.ph q)) (.waited q))
  | finalStore : op.isStore = true →
      Shape s op .finalStore (setCell s op.key (.val op.value)) (.fin .unit .direct)

/-- an enabled `stepOp` has one of the shapes; a disabled one is a `Load` at `compute`, a waiter
whose placeholder is not done, or a non-`Store` at `finalStore` -/
theorem stepOp_shape (s : Sys) (op : Op) (pc : Pc) :
    match stepOp s op pc with
    | some (s1, nx) => Shape s op pc s1 nx
    | none => (∃ p, pc = .compute p ∧ op.isLoad = true) ∨
        (∃ q, pc = .wait q ∧ (s.ph q).done = false) ∨ (pc = .finalStore ∧ op.isStore = false) := by
  cases pc with
  | start =>
    cases op with
    | load k =>
      simp only [stepOp, Op.key]
      cases hc : s.cell k
      · exact .loadMissing rfl hc
      · exact .toWait _ hc
      · exact .foundVal _ rfl hc
    | los k fv =>
      simp only [stepOp, Op.key]
      cases hc : s.cell k
      · exact .install rfl hc
      · exact .toWait _ hc
      · exact .foundVal _ rfl hc
    | store k v =>
      simp only [stepOp, Op.key]
      cases hc : s.cell k
      · exact .install rfl hc
      · exact .toWait _ hc
      · exact .storeFound _ rfl hc
  | compute p =>
    cases op with
    | load k => exact .inl ⟨p, rfl, rfl⟩
    | los k fv | store k v => exact .compute p rfl
  | rawStore p v => exact .rawStore p v
  | signal p v => exact .signal p v
  | wait q =>
    simp only [stepOp]
    cases hd : (s.ph q).done
    · exact .inr (.inl ⟨q, rfl, hd⟩)
    · cases hs : op.isStore
      · exact .wakeRet q hd hs
      · exact .wakeStore q hd hs
  | finalStore =>
    cases op with
    | store k v => exact .finalStore rfl
    | load k | los k fv => exact .inr (.inr ⟨rfl, rfl⟩)

theorem Shape.frame {s s1 : Sys} {op : Op} {pc : Pc} {nx : Next} (h : Shape s op pc s1 nx) :
    s1.threads = s.threads ∧ s1.trace = s.trace := by
  cases h <;> exact ⟨rfl, rfl⟩

/-- the state after a step of thread `i`: the shared part of `s1` (what `stepOp` returned), the
thread table and trace of `s` with thread `i` advanced -/
def post (s1 s : Sys) (i : Nat) (rest : List Op) (op : Op) (nx : Next) : Sys :=
  { s1 with threads := fun j => if j = i then advance (s.threads i) rest nx else s.threads j,
            trace := traceAfter s.trace i op (s.threads i).pc nx }

theorem post_threads (s1 s : Sys) (i : Nat) (rest : List Op) (op : Op) (nx : Next) (j : Nat) :
    (post s1 s i rest op nx).threads j
      = if j = i then advance (s.threads i) rest nx else s.threads j := rfl

theorem step_cons {s : Sys} {i : Nat} {op : Op} {rest : List Op}
    (htodo : (s.threads i).todo = op :: rest) :
    step s i = (stepOp s op (s.threads i).pc).map fun (s1, nx) =>
      { s1 with threads := fun j => if j = i then advance (s.threads i) rest nx else s1.threads j,
                trace := traceAfter s1.trace i op (s.threads i).pc nx } := by
  unfold step; rw [htodo]; simp only
  cases stepOp s op (s.threads i).pc <;> rfl

theorem step_some_inv {s s' : Sys} {i : Nat} (h : step s i = some s') :
    ∃ op rest s1 nx, (s.threads i).todo = op :: rest ∧
      Shape s op (s.threads i).pc s1 nx ∧ s' = post s1 s i rest op nx := by
  cases htodo : (s.threads i).todo with
  | nil => unfold step at h; rw [htodo] at h; cases h
  | cons op rest =>
    rw [step_cons htodo] at h
    obtain ⟨⟨s1, nx⟩, hop, rfl⟩ := Option.map_eq_some_iff.mp h
    have hs := stepOp_shape s op (s.threads i).pc
    rw [hop] at hs
    obtain ⟨ht, htr⟩ := hs.frame
    exact ⟨op, rest, s1, nx, rfl, hs, by show Sys.mk .. = _; rw [ht, htr]; rfl⟩

/-- the induction every run-level fact goes by -/
theorem run_induction {P : Sys → Prop} (hstep : ∀ s i s', P s → step s i = some s' → P s')
    {s : Sys} (h : P s) (sched : List Nat) : P (run s sched) := by
  induction sched generalizing s with
  | nil => exact h
  | cons i is ih =>
    simp only [run]
    split
    · rename_i s' hs; exact ih (hstep s i s' h hs)
    · exact ih h

/-- the thread executing `op` installed placeholder `p`, whose record is `h` (a conjunction, not
a structure, so that it unfolds: it depends on the shared part of `s` only) -/
abbrev Owner (s : Sys) (op : Op) (p : Nat) (h : PH) : Prop :=
  op.isLoad = false ∧ s.phOf op.key = some p ∧ s.ph p = h

theorem Owner.notLoad {s : Sys} {op : Op} {p : Nat} {h : PH} (ho : Owner s op p h) :
    op.isLoad = false := ho.1
theorem Owner.phOf {s : Sys} {op : Op} {p : Nat} {h : PH} (ho : Owner s op p h) :
    s.phOf op.key = some p := ho.2.1
theorem Owner.ph {s : Sys} {op : Op} {p : Nat} {h : PH} (ho : Owner s op p h) : s.ph p = h := ho.2.2

/-- What holds of the shared state while a thread executing `op` stands at `pc`. `compute`: the
placeholder is still as allocated, so `v` is written exactly once; and `computes` is still `0`,
which is why it never exceeds `1`. `rawStore`: what is about to be stored is the operation's own
value (the refinement and `c18_store_write_takes_effect` need it). -/
def PcInv (s : Sys) (op : Op) : Pc → Prop
  | .start => True
  | .compute p => Owner s op p {} ∧ s.cell op.key = .infl p ∧ s.computes op.key = 0
  | .rawStore p v => Owner s op p { v := some v } ∧ s.cell op.key = .infl p ∧ op.value = v
  | .signal p v => Owner s op p { v := some v } ∧ (s.cell op.key).isVal = true
  | .wait q => s.phOf op.key = some q ∧
      (s.cell op.key = .infl q ∨ ((s.cell op.key).isVal = true ∧ ∃ v, (s.ph q).v = some v))
  | .finalStore => op.isStore = true ∧ (s.cell op.key).isVal = true

def TInv (s : Sys) (t : Thread) : Prop :=
  match t.todo with
  | [] => t.pc = .start
  | op :: _ => PcInv s op t.pc

def retShape : Op → Ret → Prop
  | .store _ _, r => r = .unit
  | .los _ _, r => ∃ v, r = .val v
  | .load _, r => r = .missing ∨ ∃ v, r = .val v

theorem retShape_missing {op : Op} (h : op.isLoad = true) : retShape op .missing := by
  cases op with
  | load => exact .inl rfl
  | los | store => cases h

theorem retShape_val {op : Op} {v : Nat} (h : op.isStore = false) : retShape op (.val v) := by
  cases op with
  | store => cases h
  | los => exact ⟨v, rfl⟩
  | load => exact .inr ⟨v, rfl⟩

theorem retShape_unit {op : Op} (h : op.isStore = true) : retShape op .unit := by
  cases op with
  | store => rfl
  | los | load => cases h

theorem retShape_own {op : Op} {v : Nat} : retShape op (if op.isStore then .unit else .val v) := by
  cases op with
  | load => exact .inr ⟨v, rfl⟩
  | los => exact ⟨v, rfl⟩
  | store => rfl

theorem retOfPh_val {h : PH} {v : Nat} (hv : h.v = some v) : retOfPh h = .val v := by
  unfold retOfPh; rw [hv]

/-- a result obtained through placeholder `p` is the value written into `p`, and `p` is the
placeholder installed for the key -/
def PhOk (s : Sys) (op : Op) (r : Ret) (p : Nat) : Prop :=
  s.phOf op.key = some p ∧ ∃ v, (s.ph p).v = some v ∧ (op.isStore = false → r = .val v)

def EvOk (s : Sys) : Ev → Prop
  | .call _ _ => True
  | .ret _ op r via => retShape op r ∧ ∀ p, via.pid? = some p → PhOk s op r p

def NextOk (s : Sys) (i : Nat) (op : Op) : Next → Prop
  | .fin r via => EvOk s (.ret i op r via)
  | .goto pc' => PcInv s op pc'

structure Inv (s : Sys) : Prop where
  thr : ∀ j, TInv s (s.threads j)
  cellPh : ∀ k p, s.cell k = .infl p → s.phOf k = some p
  inflNotDone : ∀ k p, s.cell k = .infl p → (s.ph p).done = false
  /-- a placeholder that is not done has a running owner: nobody waits for ever -/
  notDoneOwned : ∀ p, p < s.nextPid → (s.ph p).done = false →
    ∃ j, (s.threads j).pc.owns p = true
  /-- placeholders not yet allocated are as `install` expects to find them -/
  fresh : ∀ p, s.nextPid ≤ p → s.ph p = {}
  uniq : ∀ i j p, (s.threads i).pc.owns p = true → (s.threads j).pc.owns p = true → i = j
  /-- the ghost counters of an absent key are `0`, so that installing bumps `placed` to exactly
  `1` and the one `compute` that follows finds `computes = 0` -/
  absent0 : ∀ k, s.cell k = .absent → s.computes k = 0 ∧ s.placed k = 0 ∧ s.phOf k = none
  comp1 : ∀ k, s.computes k ≤ 1
  placed1 : ∀ k, s.placed k ≤ 1
  phOfLt : ∀ {k p}, s.phOf k = some p → p < s.nextPid
  /-- with `phOfLt`: a placeholder id is allocated once, for one key -/
  phOfInj : ∀ k k' p, s.phOf k = some p → s.phOf k' = some p → k = k'
  tr : ∀ e ∈ s.trace, EvOk s e

theorem TInv.cons {s : Sys} {t : Thread} {op : Op} {rest : List Op} (h : TInv s t)
    (h0 : t.todo = op :: rest) : PcInv s op t.pc := by
  unfold TInv at h; rw [h0] at h; exact h

theorem TInv.start {s : Sys} {rest : List Op} {rets : List Ret} :
    TInv s { todo := rest, pc := .start, rets := rets } := by
  unfold TInv; split <;> trivial

theorem TInv.goto {s : Sys} {t : Thread} {op : Op} {rest : List Op} {pc' : Pc}
    (h0 : t.todo = op :: rest) (h : PcInv s op pc') : TInv s (advance t rest (.goto pc')) := by
  unfold TInv; simp only [advance, h0]; exact h

theorem TInv.of_ne_start {s : Sys} {t : Thread} (h : TInv s t) (hpc : t.pc ≠ .start) :
    ∃ op rest, t.todo = op :: rest ∧ PcInv s op t.pc := by
  unfold TInv at h
  split at h
  · exact (hpc h).elim
  · rename_i op rest h0; exact ⟨op, rest, h0, h⟩

theorem TInv.of_owns {s : Sys} {t : Thread} {p : Nat} (h : TInv s t) (ho : t.pc.owns p = true) :
    ∃ op rest h', t.todo = op :: rest ∧ Owner s op p h' ∧ h'.done = false := by
  obtain ⟨op, rest, h0, hp⟩ := h.of_ne_start (fun e => by rw [e] at ho; cases ho)
  cases hpc : t.pc with
  | compute q | rawStore q v | signal q v =>
    rw [hpc] at ho hp; cases eq_of_beq ho; exact ⟨op, rest, _, h0, hp.1, rfl⟩
  | _ => rw [hpc] at ho; cases ho

theorem owns_lt {s : Sys} (hI : Inv s) {j : Nat} {p : Nat}
    (h : (s.threads j).pc.owns p = true) : p < s.nextPid :=
  let ⟨_, _, _, _, ho, _⟩ := (hI.thr j).of_owns h
  hI.phOfLt ho.phOf

theorem wait_done {s : Sys} (hI : Inv s) {op : Op} {q : Nat} (h : PcInv s op (.wait q))
    (hd : (s.ph q).done = true) : (s.cell op.key).isVal = true ∧ ∃ v, (s.ph q).v = some v := by
  rcases h.2 with h2 | h2
  · rw [hI.inflNotDone _ _ h2] at hd; cases hd
  · exact h2

theorem inv_init (progs : Nat → List Op) : Inv (init progs) where
  thr _ := TInv.start
  cellPh _ _ h := Cell.noConfusion h
  inflNotDone _ _ h := Cell.noConfusion h
  notDoneOwned p hp := absurd hp (Nat.not_lt_zero p)
  fresh _ _ := rfl
  uniq _ _ _ h := Bool.noConfusion h
  absent0 _ _ := ⟨rfl, rfl, rfl⟩
  comp1 _ := Nat.zero_le 1
  placed1 _ := Nat.zero_le 1
  phOfLt h := nomatch h
  phOfInj _ _ _ h := nomatch h
  tr _ h := (List.not_mem_nil h).elim

/-- What one atomic step of a thread executing `op` at `pc` may do to the shared state: the
installed placeholder of a key, a placeholder's `v` and "the cell holds a value" only ever get
set; a placeholder changes only under its owner's hands, a cell leaves `infl p` only by the
owner's raw store, and a cell enters `infl` only with a newly allocated placeholder. -/
structure Effect (s s1 : Sys) (op : Op) (pc : Pc) : Prop where
  phOf : ∀ {k p}, s.phOf k = some p → s1.phOf k = some p
  phV : ∀ {p v}, (s.ph p).v = some v → (s1.ph p).v = some v
  ph : ∀ p, pc.owns p = false → s1.ph p = s.ph p
  done : ∀ p, (s1.ph p).done = (s.ph p).done ∨ ∃ v, pc = .signal p v
  isVal : ∀ {k}, (s.cell k).isVal = true → (s1.cell k).isVal = true
  absent : ∀ k, s1.cell k = .absent → s.cell k = .absent
  infl : ∀ {k p}, s.cell k = .infl p →
    s1.cell k = .infl p ∨ ∃ v, pc = .rawStore p v ∧ (s1.cell k).isVal = true
  inflNew : ∀ k p, s1.cell k = .infl p → s.cell k = .infl p ∨ (p = s.nextPid ∧ p < s1.nextPid)
  computes : ∀ k, s1.computes k = s.computes k ∨
    (k = op.key ∧ (∃ p, pc = .compute p) ∧ s1.computes k = s.computes k + 1)

theorem Effect.refl (s : Sys) (op : Op) (pc : Pc) : Effect s s op pc :=
  ⟨fun h => h, fun h => h, fun _ _ => rfl, fun _ => .inl rfl, fun h => h, fun _ h => h,
    fun h => .inl h, fun _ _ h => .inl h, fun _ => .inl rfl⟩

theorem Shape.isVal {s s1 : Sys} {op : Op} {pc : Pc} {nx : Next} (h : Shape s op pc s1 nx) (k : Nat)
    (hv : (s.cell k).isVal = true) : (s1.cell k).isVal = true := by
  have set : ∀ c, ((s.cell op.key).isVal = true → c.isVal = true) →
      ((setCell s op.key c).cell k).isVal = true := by
    intro c hc
    rcases setCell_cell s op.key c k with ⟨e, e'⟩ | ⟨_, e⟩
    · rw [e'] ; exact hc (e ▸ hv)
    · rw [e]; exact hv
  cases h with
  | install hl hc => exact set _ (by rw [hc]; nofun)
  | rawStore p v => exact set _ (fun _ => rfl)
  | finalStore hst => exact set _ (fun _ => rfl)
  | _ => exact hv

theorem Effect.store {s : Sys} {op : Op} {pc : Pc} {v : Nat}
    (h : ∀ p, s.cell op.key = .infl p → pc = .rawStore p v) :
    Effect s (setCell s op.key (.val v)) op pc :=
  { Effect.refl s op pc with
    isVal := fun {k} hk => by
      rcases setCell_cell s op.key (.val v) k with ⟨_, e⟩ | ⟨_, e⟩ <;> rw [e]
      · rfl
      · exact hk
    absent := fun k hk => by
      rcases setCell_cell s op.key (.val v) k with ⟨_, e⟩ | ⟨_, e⟩ <;> rw [e] at hk
      · cases hk
      · exact hk
    infl := fun {k p} hk => by
      rcases setCell_cell s op.key (.val v) k with ⟨rfl, e⟩ | ⟨_, e⟩ <;> rw [e]
      · exact .inr ⟨v, h p hk, rfl⟩
      · exact .inl hk
    inflNew := fun k p hk => by
      rcases setCell_cell s op.key (.val v) k with ⟨_, e⟩ | ⟨_, e⟩ <;> rw [e] at hk
      · cases hk
      · exact .inl hk }

theorem Effect.own {s : Sys} {op : Op} {pc : Pc} {p : Nat} {h' : PH} (ho : pc.owns p = true)
    (hv : ∀ v, (s.ph p).v = some v → h'.v = some v)
    (hd : h'.done = (s.ph p).done ∨ ∃ v, pc = .signal p v) : Effect s (setPh s p h') op pc :=
  { Effect.refl s op pc with
    phV := fun {p' v} hv' => by
      rcases setPh_ph s p h' p' with ⟨rfl, e⟩ | ⟨_, e⟩ <;> rw [e]
      · exact hv v hv'
      · exact hv'
    ph := fun p' ho' => by
      rcases setPh_ph s p h' p' with ⟨rfl, _⟩ | ⟨_, e⟩
      · rw [ho] at ho'; cases ho'
      · exact e
    done := fun p' => by
      rcases setPh_ph s p h' p' with ⟨rfl, e⟩ | ⟨_, e⟩ <;> rw [e]
      · exact hd
      · exact .inl rfl }

theorem Shape.effect {s s1 : Sys} {op : Op} {pc : Pc} {nx : Next} (hI : Inv s)
    (hp : PcInv s op pc) (h : Shape s op pc s1 nx) : Effect s s1 op pc := by
  have hv := h.isVal
  cases h with
  | install hl hc =>
    have hcell := setCell_cell s op.key (.infl s.nextPid)
    exact { Effect.refl s op .start with
      phOf := fun {k p} hk => by
        by_cases e : k = op.key
        · rw [e, (hI.absent0 _ hc).2.2] at hk; cases hk
        · exact (install_phOf_other s e).trans hk
      isVal := hv _
      absent := fun k hk => by
        rcases hcell k with ⟨_, e⟩ | ⟨_, e⟩
        · cases e.symm.trans hk
        · exact e.symm.trans hk
      infl := fun {k p} hk => by
        rcases hcell k with ⟨e, _⟩ | ⟨_, e⟩
        · rw [e, hc] at hk; cases hk
        · exact .inl (e ▸ hk)
      inflNew := fun k p hk => by
        rcases hcell k with ⟨_, e⟩ | ⟨_, e⟩
        · cases e.symm.trans hk; exact .inr ⟨rfl, Nat.lt_succ_self _⟩
        · exact .inl (e.symm.trans hk) }
  | compute p hl =>
    exact { Effect.own (op := op) (pc := .compute p) (h' := { (s.ph p) with v := some op.value })
        (beq_self_eq_true p) (fun v hv => by rw [hp.1.ph] at hv; cases hv) (.inl rfl) with
      computes := fun k => by
        show (if op.isStore then s.computes else bump s.computes op.key) k = _ ∨ _
        split
        · exact .inl rfl
        · by_cases e : k = op.key
          · exact .inr ⟨e, ⟨p, rfl⟩, e ▸ bump_same⟩
          · exact .inl (bump_other _ e) }
  | rawStore p v => exact .store (fun p' h => by rw [hp.2.1] at h; cases h; rfl)
  | signal p v => exact .own (beq_self_eq_true p) (fun _ hv => hv) (.inr ⟨v, rfl⟩)
  | finalStore hst => exact .store (fun p' h => by have := hp.2; rw [h] at this; cases this)
  | _ => exact .refl ..

theorem Owner.effect {s s1 : Sys} {op opj : Op} {pc : Pc} {p : Nat} {h : PH}
    (ho : Owner s opj p h) (he : Effect s s1 op pc) (hdis : pc.owns p = false) :
    Owner s1 opj p h :=
  ⟨ho.notLoad, he.phOf ho.phOf, (he.ph p hdis).trans ho.ph⟩

/-- another thread's local invariant survives a step: it owns no placeholder the stepping thread
owns -/
theorem PcInv.effect {s s1 : Sys} {op opj : Op} {pc pcj : Pc} (hi : PcInv s op pc)
    (he : Effect s s1 op pc) (hdis : ∀ p, pcj.owns p = true → pc.owns p = false)
    (hj : PcInv s opj pcj) : PcInv s1 opj pcj := by
  -- an owner's cell stays `infl p`: only `rawStore p` by the owner of `p` takes it away
  have hinfl : ∀ p, pc.owns p = false → s.cell opj.key = .infl p → s1.cell opj.key = .infl p := by
    intro p ho hc
    refine (he.infl hc).resolve_right ?_
    rintro ⟨v, rfl, _⟩
    exact Bool.noConfusion (ho.symm.trans (beq_self_eq_true p))
  cases pcj with
  | start => trivial
  | compute p =>
    have ho := hdis p (beq_self_eq_true p)
    refine ⟨hj.1.effect he ho, hinfl p ho hj.2.1, ?_⟩
    rcases he.computes opj.key with e | ⟨e, ⟨p', rfl⟩, _⟩
    · rw [e]; exact hj.2.2
    · -- the two threads would compute for the same key, hence the same placeholder
      have hc := hj.2.1
      rw [e, hi.2.1] at hc; cases hc
      exact Bool.noConfusion (ho.symm.trans (beq_self_eq_true p))
  | rawStore p v =>
    have ho := hdis p (beq_self_eq_true p)
    exact ⟨hj.1.effect he ho, hinfl p ho hj.2.1, hj.2.2⟩
  | signal p v => exact ⟨hj.1.effect he (hdis p (beq_self_eq_true p)), he.isVal hj.2⟩
  | wait q =>
    refine ⟨he.phOf hj.1, ?_⟩
    rcases hj.2 with h2 | ⟨h2, v, h3⟩
    · rcases he.infl h2 with h | ⟨v, rfl, h⟩
      · exact .inl h
      · exact .inr ⟨h, v, he.phV (by rw [hi.1.ph])⟩
    · exact .inr ⟨he.isVal h2, v, he.phV h3⟩
  | finalStore => exact ⟨hj.1, he.isVal hj.2⟩

theorem TInv.effect {s s1 : Sys} {op : Op} {pc : Pc} {t : Thread} (ht : TInv s t)
    (hi : PcInv s op pc) (he : Effect s s1 op pc)
    (hdis : ∀ p, t.pc.owns p = true → pc.owns p = false) : TInv s1 t := by
  unfold TInv at ht ⊢
  split
  · rename_i h0; rw [h0] at ht; exact ht
  · rename_i opj restj h0
    rw [h0] at ht
    exact hi.effect he hdis ht

theorem EvOk.effect {s s1 : Sys} {op : Op} {pc : Pc} {e : Ev} (h : EvOk s e)
    (he : Effect s s1 op pc) : EvOk s1 e := by
  cases e with
  | call t op => trivial
  | ret t o r via =>
    refine ⟨h.1, fun p hp => ?_⟩
    obtain ⟨h1, v, h2, h3⟩ := h.2 p hp
    exact ⟨he.phOf h1, v, he.phV h2, h3⟩

theorem mem_traceAfter {tr : List Ev} {i : Nat} {op : Op} {pc : Pc} {nx : Next} {e : Ev}
    (h : e ∈ traceAfter tr i op pc nx) :
    e ∈ tr ∨ e = .call i op ∨ ∃ r via, nx = .fin r via ∧ e = .ret i op r via := by
  have call : e ∈ (if pc = .start then tr ++ [.call i op] else tr) → e ∈ tr ∨ e = .call i op := by
    intro h
    split at h
    · exact (List.mem_append.mp h).imp_right List.mem_singleton.mp
    · exact .inl h
  cases nx with
  | goto pc' => exact (call h).imp_right .inl
  | fin r via =>
    rcases List.mem_append.mp h with h | h
    · exact (call h).imp_right .inl
    · exact .inr (.inr ⟨r, via, rfl, List.mem_singleton.mp h⟩)

/-- Preservation for a step that writes only cells, placeholders and `computes` (every step but
`install`). `hsub`, `hkeep`: the stepping thread gains no ownership, and gives one up only by
setting `done`. -/
theorem inv_post {s s1 : Sys} {c : Nat → Cell} {ph : Nat → PH} {m : Nat → Nat} {i : Nat} {op : Op}
    {rest : List Op} {pc : Pc} {nx : Next}
    (hI : Inv s) (htodo : (s.threads i).todo = op :: rest) (hpc : (s.threads i).pc = pc)
    (he : Effect s s1 op pc) (hs1 : s1 = { s with cell := c, ph := ph, computes := m })
    (hsub : ∀ p, (advance (s.threads i) rest nx).pc.owns p = true → pc.owns p = true)
    (hkeep : ∀ p, pc.owns p = true → (s1.ph p).done = false →
      (advance (s.threads i) rest nx).pc.owns p = true)
    (hret : NextOk s1 i op nx) : Inv (post s1 s i rest op nx) := by
  have hthr : TInv s1 (advance (s.threads i) rest nx) := by
    cases nx with
    | goto pc' => exact TInv.goto htodo hret
    | fin r via => exact TInv.start
  subst hs1
  subst hpc
  have hi := (hI.thr i).cons htodo
  have hinfl : ∀ k p, c k = .infl p → s.cell k = .infl p := fun k p hk =>
    (he.inflNew k p hk).resolve_right (fun ⟨e, h⟩ => by rw [e] at h; exact Nat.lt_irrefl _ h)
  have hdone : ∀ p, (ph p).done = false → (s.ph p).done = false := by
    intro p hd
    rcases he.done p with e | ⟨v, e⟩
    · exact e.symm.trans hd
    · rw [e] at hi; rw [hi.1.ph]
  constructor
  case thr =>
    intro j
    show TInv { s with cell := c, ph := ph, computes := m } _
    rw [post_threads]
    split
    · exact hthr
    · rename_i hj
      exact (hI.thr j).effect hi he
        (fun p ho => Bool.eq_false_iff.mpr (fun h => hj (hI.uniq j i p ho h)))
  case cellPh => exact fun k p hk => hI.cellPh k p (hinfl k p hk)
  case inflNotDone =>
    intro k p hk
    have hk' := hinfl k p hk
    rcases he.done p with e | ⟨v, e⟩
    · exact e.trans (hI.inflNotDone k p hk')
    · -- the signalling owner's key holds a value, and `p` belongs to that key
      rw [e] at hi
      have h2 := hi.2
      rw [← hI.phOfInj _ _ _ (hI.cellPh k p hk') hi.1.phOf, hk'] at h2; cases h2
  case notDoneOwned =>
    intro p hp hd
    obtain ⟨j, hj⟩ := hI.notDoneOwned p hp (hdone p hd)
    refine ⟨j, ?_⟩
    rw [post_threads]
    split
    · rename_i e; subst e; exact hkeep p hj hd
    · exact hj
  case fresh =>
    intro p hp
    have : (s.threads i).pc.owns p = false :=
      Bool.eq_false_iff.mpr (fun h => Nat.not_lt.mpr hp (owns_lt hI h))
    exact (he.ph p this).trans (hI.fresh p hp)
  case uniq =>
    intro a b p ha hb
    rw [post_threads] at ha hb
    have old : ∀ c, (if c = i then advance (s.threads i) rest nx else s.threads c).pc.owns p = true →
        (s.threads c).pc.owns p = true := by
      intro c hc
      split at hc
      · rename_i e; subst e; exact hsub p hc
      · exact hc
    exact hI.uniq a b p (old a ha) (old b hb)
  case absent0 =>
    intro k hk
    have hk' := he.absent k hk
    obtain ⟨h1, h23⟩ := hI.absent0 k hk'
    refine ⟨?_, h23⟩
    rcases he.computes k with e | ⟨e, ⟨p, e'⟩, _⟩
    · exact e.trans h1
    · rw [e'] at hi; rw [e, hi.2.1] at hk'; cases hk'
  case comp1 =>
    intro k
    rcases he.computes k with e | ⟨e, ⟨p, e'⟩, e''⟩
    · exact e ▸ hI.comp1 k
    · rw [e'] at hi
      exact Nat.le_of_eq (e''.trans (by rw [e, hi.2.2]))
  case placed1 => exact hI.placed1
  case phOfLt => exact hI.phOfLt
  case phOfInj => exact hI.phOfInj
  case tr =>
    intro e hm
    show EvOk { s with cell := c, ph := ph, computes := m } e
    rcases mem_traceAfter hm with h | rfl | ⟨r, via, rfl, rfl⟩
    · exact (hI.tr e h).effect he
    · trivial
    · exact hret

/-- a relation in which each id has one holder stays so when a new id `n` is given to `i` -/
theorem uniq_extend {α : Type} {Q Q' : α → Nat → Prop} {i : α} {n : Nat}
    (hQ : ∀ a b p, Q a p → Q b p → a = b) (hn : ∀ a, ¬Q a n)
    (h : ∀ a p, Q' a p → (a = i ∧ p = n) ∨ Q a p) : ∀ a b p, Q' a p → Q' b p → a = b := by
  intro a b p ha hb
  rcases h a p ha with ⟨ea, ep⟩ | ha <;> rcases h b p hb with ⟨eb, ep'⟩ | hb
  · rw [ea, eb]
  · rw [ep] at hb; exact (hn b hb).elim
  · rw [ep'] at ha; exact (hn a ha).elim
  · exact hQ a b p ha hb

/-- the one step that allocates: a `LoadOrStore`/`Store` on an absent key installs a new
placeholder -/
theorem inv_install {s : Sys} {i : Nat} {op : Op} {rest : List Op} (hI : Inv s)
    (htodo : (s.threads i).todo = op :: rest) (hpc : (s.threads i).pc = .start)
    (hl : op.isLoad = false) (hc : s.cell op.key = .absent) :
    Inv (post (install s op.key) s i rest op (.goto (.compute s.nextPid))) := by
  have he : Effect s (install s op.key) op .start := (Shape.install hl hc).effect hI trivial
  have hfr := hI.fresh s.nextPid (Nat.le_refl _)
  have h0 := hI.absent0 _ hc
  have hcell := setCell_cell s op.key (.infl s.nextPid)
  -- what `install` did to `phOf` at a key
  have hphOf : ∀ k p, (install s op.key).phOf k = some p →
      (k = op.key ∧ p = s.nextPid) ∨ s.phOf k = some p := by
    intro k p h
    by_cases e : k = op.key
    · rw [e, install_phOf_same] at h; cases h; exact .inl ⟨e, rfl⟩
    · exact .inr ((install_phOf_other s e).symm.trans h)
  constructor
  case thr =>
    intro j
    show TInv (install s op.key) (if j = i then _ else _)
    split
    · exact TInv.goto htodo ⟨⟨hl, install_phOf_same, hfr⟩, setCell_same, h0.1⟩
    · exact (hI.thr j).effect (pc := .start) trivial he (fun _ _ => rfl)
  case cellPh =>
    intro k p hk
    rcases hcell k with ⟨e, h⟩ | ⟨e, h⟩
    · cases h.symm.trans hk; exact e ▸ install_phOf_same
    · exact (install_phOf_other s e).trans (hI.cellPh k p (h.symm.trans hk))
  case inflNotDone =>
    intro k p hk
    rcases he.inflNew k p hk with h | ⟨h, _⟩
    · exact hI.inflNotDone k p h
    · rw [h]; exact congrArg PH.done hfr
  case notDoneOwned =>
    intro p hp hd
    show ∃ j, (Thread.pc (if j = i then _ else _)).owns p = true
    by_cases hpn : p = s.nextPid
    · exact ⟨i, by rw [if_pos rfl, hpn]; exact beq_self_eq_true _⟩
    · obtain ⟨j, h1⟩ := hI.notDoneOwned p (Nat.lt_of_le_of_ne (Nat.le_of_lt_succ hp) hpn) hd
      have hj : j ≠ i := by intro e; subst e; rw [hpc] at h1; cases h1
      exact ⟨j, by rw [if_neg hj]; exact h1⟩
  case fresh => exact fun p hp => hI.fresh p (Nat.le_of_succ_le hp)
  case uniq =>
    refine uniq_extend (Q := fun c p => (s.threads c).pc.owns p = true) (i := i) (n := s.nextPid)
      hI.uniq (fun c h => Nat.lt_irrefl _ (owns_lt hI h)) (fun c p h => ?_)
    replace h : (Thread.pc (if c = i then _ else _)).owns p = true := h
    split at h
    · rename_i e; exact .inl ⟨e, (eq_of_beq (show (s.nextPid == p) = true from h)).symm⟩
    · exact .inr h
  case absent0 =>
    intro k hk
    rcases hcell k with ⟨_, h⟩ | ⟨e, h⟩
    · cases h.symm.trans hk
    · show _ ∧ bump s.placed op.key k = 0 ∧ (install s op.key).phOf k = none
      rw [bump_other _ e, install_phOf_other s e]
      exact hI.absent0 k (h.symm.trans hk)
  case comp1 => exact hI.comp1
  case placed1 =>
    intro k
    show bump s.placed op.key k ≤ 1
    by_cases e : k = op.key
    · rw [e, bump_same, h0.2.1]; exact Nat.le_refl _
    · rw [bump_other _ e]; exact hI.placed1 k
  case phOfLt =>
    intro k p hk
    rcases hphOf k p hk with ⟨_, e⟩ | h
    · rw [e]; exact Nat.lt_succ_self _
    · exact Nat.lt_succ_of_lt (hI.phOfLt h)
  case phOfInj =>
    exact uniq_extend hI.phOfInj (fun k h => Nat.lt_irrefl _ (hI.phOfLt h)) hphOf
  case tr =>
    intro e hm
    show EvOk (install s op.key) e
    rcases mem_traceAfter (show e ∈ traceAfter s.trace i op _ (.goto (.compute s.nextPid)) from hm)
      with h | rfl | ⟨r, via, hnx, rfl⟩
    · exact (hI.tr e h).effect he
    · trivial
    · cases hnx

theorem inv_step {s s' : Sys} {i : Nat} (hI : Inv s) (h : step s i = some s') : Inv s' := by
  obtain ⟨op, rest, s1, nx, htodo, hs, rfl⟩ := step_some_inv h
  have hti := (hI.thr i).cons htodo
  have he := hs.effect hI hti
  generalize hpc : (s.threads i).pc = pc at hs hti he
  cases hs with
  | loadMissing hl hc =>
    exact inv_post hI htodo hpc he rfl nofun nofun ⟨retShape_missing hl, nofun⟩
  | foundVal v hst hc =>
    exact inv_post hI htodo hpc he rfl nofun nofun ⟨retShape_val hst, nofun⟩
  | toWait q hc =>
    exact inv_post hI htodo hpc he rfl nofun nofun ⟨hI.cellPh _ _ hc, .inl hc⟩
  | install hl hc => exact inv_install hI htodo hpc hl hc
  | storeFound w hst hc =>
    exact inv_post hI htodo hpc he rfl nofun nofun ⟨hst, by rw [hc]; rfl⟩
  | compute p hl =>
    refine inv_post hI htodo hpc he rfl (fun _ h => h) (fun _ h _ => h) ?_
    exact ⟨⟨hl, hti.1.phOf, setPh_same.trans (by rw [hti.1.ph])⟩, hti.2.1, rfl⟩
  | rawStore p v =>
    refine inv_post hI htodo hpc he rfl (fun _ h => h) (fun _ h _ => h) ?_
    exact ⟨hti.1, congrArg Cell.isVal setCell_same⟩
  | signal p v =>
    have hph : (setPh s p { (s.ph p) with done := true }).ph p = { done := true, v := some v } :=
      setPh_same.trans (by rw [hti.1.ph])
    refine inv_post hI htodo hpc he rfl nofun (fun p' ho hd => ?_)
      ⟨retShape_own, fun p' e => ?_⟩
    · cases eq_of_beq (show (p == p') = true from ho)
      cases (congrArg PH.done hph).symm.trans hd
    · cases e
      exact ⟨hti.1.phOf, v, congrArg PH.v hph, fun hs => by rw [hs]; rfl⟩
  | wakeStore q hd hst =>
    exact inv_post hI htodo hpc he rfl nofun nofun ⟨hst, (wait_done hI hti hd).1⟩
  | wakeRet q hd hst =>
    obtain ⟨_, v, hv⟩ := wait_done hI hti hd
    refine inv_post hI htodo hpc he rfl nofun nofun
      ⟨retOfPh_val hv ▸ retShape_val hst, fun p e => ?_⟩
    cases e
    exact ⟨hti.1, v, hv, fun _ => retOfPh_val hv⟩
  | finalStore hst =>
    exact inv_post hI htodo hpc he rfl nofun nofun ⟨retShape_unit hst, nofun⟩

theorem inv_reachable {s : Sys} (h : Reachable s) : Inv s := by
  obtain ⟨progs, sched, rfl⟩ := h
  exact run_induction (fun _ _ _ hI hs => inv_step hI hs) (inv_init progs) sched

theorem via_value {s : Sys} (hI : Inv s) {t : Nat} {op : Op} {r : Ret} {via : Via} {p : Nat}
    (he : Ev.ret t op r via ∈ s.trace) (hp : via.pid? = some p) : PhOk s op r p :=
  (hI.tr _ he).2 p hp

theorem step_none_wait {s : Sys} (hI : Inv s) {i : Nat} {op : Op} {rest : List Op}
    (htodo : (s.threads i).todo = op :: rest) (h : step s i = none) :
    ∃ q, (s.threads i).pc = .wait q ∧ (s.ph q).done = false := by
  have hp := (hI.thr i).cons htodo
  have hs := stepOp_shape s op (s.threads i).pc
  rw [step_cons htodo] at h
  rw [Option.map_eq_none_iff.mp h] at hs
  rcases hs with ⟨p, hpc, hl⟩ | hw | ⟨hpc, hst⟩
  · rw [hpc] at hp; rw [hp.1.notLoad] at hl; cases hl
  · exact hw
  · rw [hpc] at hp; rw [hp.1] at hst; cases hst

theorem owner_enabled {s : Sys} (hI : Inv s) {j q : Nat}
    (h : (s.threads j).pc.owns q = true) : (step s j).isSome = true := by
  cases hs : step s j with
  | some _ => rfl
  | none =>
    obtain ⟨op, rest, _, htodo, _⟩ := (hI.thr j).of_owns h
    obtain ⟨q', hq', _⟩ := step_none_wait hI htodo hs
    rw [hq'] at h; cases h

theorem overwrite_is_store {s s' : Sys} (hI : Inv s) {i k w : Nat} (h : step s i = some s')
    (hw : s.cell k = .val w) (hne : s'.cell k ≠ .val w) :
    ∃ v rest, (s.threads i).todo = .store k v :: rest ∧ (s.threads i).pc = .finalStore ∧
      s'.cell k = .val v := by
  obtain ⟨op, rest, s1, nx, htodo, hs, rfl⟩ := step_some_inv h
  have hti := (hI.thr i).cons htodo
  generalize hpc : (s.threads i).pc = pc at hs hti
  -- a write to another key, or to a key whose cell holds no value, leaves `k` alone
  have other : ∀ c, s.cell op.key ≠ .val w → (setCell s op.key c).cell k ≠ .val w → False := by
    intro c h1 h2
    rcases setCell_cell s op.key c k with ⟨e, _⟩ | ⟨_, e⟩
    · exact h1 (e ▸ hw)
    · exact h2 (e.trans hw)
  cases hs with
  | install hl hc => exact (other _ (by rw [hc]; nofun) hne).elim
  | rawStore p v => exact (other _ (by rw [hti.2.1]; nofun) hne).elim
  | finalStore hst =>
    cases op with
    | store k' v =>
      by_cases e : k = k'
      · subst e; exact ⟨v, rest, htodo, rfl, setCell_same⟩
      · exact (hne ((if_neg e).trans hw)).elim
    | los | load => cases hst
  | _ => exact (hne hw).elim

end Restli.LazyMap
