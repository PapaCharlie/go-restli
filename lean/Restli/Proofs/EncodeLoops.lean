import Restli.Model.Encode
/-! The writer loops `encodeList`/`encodeKeyed`/`encodeTyped` over two pointwise related inputs with two
encoders: success and result carry over. Budget monotonicity and congruence under `Equals` are
instances. -/
namespace Restli.Codec

theorem bind_ok_mono {ε α β : Type} {x x' : Except ε α} {f f' : α → Except ε β} {d : β}
    (hx : ∀ a, x = .ok a → x' = .ok a) (hf : ∀ a, f a = .ok d → f' a = .ok d)
    (h : x >>= f = .ok d) : x' >>= f' = .ok d := by
  cases x with
  | error e => cases h
  | ok a => rw [hx a rfl]; exact hf a h

theorem bind_ok_inv {ε α β : Type} {x : Except ε α} {f : α → Except ε β} {d : β}
    (h : x >>= f = .ok d) : ∃ a, x = .ok a ∧ f a = .ok d := by
  cases x with
  | error e => cases h
  | ok a => exact ⟨a, rfl, h⟩

/-- pointwise relation between two lists of the same length -/
inductive All2 {α β : Type} (R : α → β → Prop) : List α → List β → Prop
  | nil : All2 R [] []
  | cons {a b l r} : R a b → All2 R l r → All2 R (a :: l) (b :: r)

theorem all2_map_right {α β : Type} (R : α → β → Prop) (g : α → β) :
    ∀ (l : List α), (∀ x ∈ l, R x (g x)) → All2 R l (l.map g) := by
  intro l h
  induction l with
  | nil => exact All2.nil
  | cons x rest ih =>
    exact All2.cons (h x List.mem_cons_self) (ih (fun y hy => h y (List.mem_cons_of_mem _ hy)))

theorem all2_same {α : Type} (R : α → α → Prop) (l : List α) (h : ∀ x ∈ l, R x x) : All2 R l l := by
  have := all2_map_right R id l h
  rwa [List.map_id] at this

theorem All2.imp {α β : Type} {R R' : α → β → Prop} {l : List α} {r : List β} (h : All2 R l r)
    (hR : ∀ a b, R a b → R' a b) : All2 R' l r := by
  induction h with
  | nil => exact All2.nil
  | cons hab _ ih => exact All2.cons (hR _ _ hab) ih

theorem encodeList_sim {enc enc' : Value → Except EncErr Doc} {xs ys : List Value}
    (h : All2 (fun x y => ∀ d, enc x = .ok d → enc' y = .ok d) xs ys) :
    ∀ ds, encodeList enc xs = .ok ds → encodeList enc' ys = .ok ds := by
  induction h with
  | nil => exact fun _ h => h
  | cons hab _ ih =>
    exact fun _ h => bind_ok_mono hab (fun _ h => bind_ok_mono ih (fun _ h => h) h) h

theorem encodeKeyed_sim {excluded : Bytes → Bool} {enc enc' : Bytes → Value → Except EncErr Doc}
    {l r : List (Bytes × Value)}
    (h : All2 (fun a b => a.1 = b.1 ∧ ∀ d, enc a.1 a.2 = .ok d → enc' b.1 b.2 = .ok d) l r) :
    ∀ out, encodeKeyed excluded enc l = .ok out → encodeKeyed excluded enc' r = .ok out := by
  induction h with
  | nil => exact fun _ h => h
  | @cons a b _ _ hab _ ih =>
    obtain ⟨k, v⟩ := a
    obtain ⟨_, w⟩ := b
    obtain ⟨rfl, hv⟩ := hab
    exact fun _ h => bind_ok_mono hv (fun _ h => bind_ok_mono ih (fun _ h => h) h) h

theorem encodeTyped_sim {excluded : Bytes → Bool} {enc enc' : Bytes → Ty → Value → Except EncErr Doc}
    {l r : List (Bytes × Ty × Value)}
    (h : All2 (fun a b => a.1 = b.1 ∧ ∀ d, enc a.1 a.2.1 a.2.2 = .ok d → enc' b.1 b.2.1 b.2.2 = .ok d) l r) :
    ∀ out, encodeTyped excluded enc l = .ok out → encodeTyped excluded enc' r = .ok out := by
  induction h with
  | nil => exact fun _ h => h
  | @cons a b _ _ hab _ ih =>
    obtain ⟨k, t, v⟩ := a
    obtain ⟨_, t', w⟩ := b
    obtain ⟨rfl, hv⟩ := hab
    exact fun _ h => bind_ok_mono hv (fun _ h => bind_ok_mono ih (fun _ h => h) h) h

/-- the encoder the writer loops hand to the slot under key `k`: the no-op writer when the key is
excluded, the real one otherwise -/
def slotEnc (c : EncCfg) (f : Nat) (scope : List Bytes) (k : Bytes) (t : Ty) (v : Value) :
    Except EncErr Doc :=
  if c.excl.matchesB (scope ++ [k]) then encodeNoop c.env t v else encode c f (scope ++ [k]) t v

/- `rfl`: the model writes this slot encoder out as a lambda at each of its three uses in `encode`;
`slotEnc` is that lambda under a name. -/
theorem encode_map (c : EncCfg) (f : Nat) (scope : List Bytes) (t : Ty) (es : List (Bytes × Value)) :
    encode c (f + 1) scope (.map t) (.map es) =
      (encodeKeyed (fun k => c.excl.matchesB (scope ++ [k])) (fun k v => slotEnc c f scope k t v) es
        >>= fun kvs => pure (c.finish kvs)) :=
  rfl

end Restli.Codec
