import Restli.Proofs.SortKeys
import Restli.Proofs.EncodeLoops
/-! `encodeKeyed` (the writer's `WriteMap` loop) under a permutation of the entries, and what
follows for the document of a map when the writer sorts keys. -/
namespace Restli.Codec

/-- the loop succeeds on a non-empty list iff the head's value and the tail are encoded; the head is
emitted unless its key is excluded -/
theorem encodeKeyed_cons_ok {excluded : Bytes → Bool} {enc : Bytes → Value → Except EncErr Doc}
    {k : Bytes} {v : Value} {l : List (Bytes × Value)} {r : List (Bytes × Doc)} :
    encodeKeyed excluded enc ((k, v) :: l) = .ok r ↔
      ∃ d more, enc k v = .ok d ∧ encodeKeyed excluded enc l = .ok more ∧
        r = if excluded k then more else (k, d) :: more := by
  constructor
  · intro h
    obtain ⟨d, hd, h⟩ := bind_ok_inv h
    obtain ⟨more, hm, h⟩ := bind_ok_inv h
    refine ⟨d, more, hd, hm, ?_⟩
    split at h
    · next hx => cases h; rw [if_pos hx]
    · next hx => cases h; rw [if_neg hx]
  · intro ⟨d, more, hd, hm, e⟩
    rw [encodeKeyed, hd, hm, e]
    show (if excluded k = true then pure more else pure ((k, d) :: more)) = _
    split
    · rfl
    · rfl

theorem encodeKeyed_perm (excluded : Bytes → Bool) (enc : Bytes → Value → Except EncErr Doc)
    (l₁ l₂ : List (Bytes × Value)) (hp : l₁.Perm l₂) :
    ∀ r₁, encodeKeyed excluded enc l₁ = .ok r₁ → ∃ r₂, encodeKeyed excluded enc l₂ = .ok r₂ ∧ r₁.Perm r₂ := by
  induction hp with
  | nil => intro r h; exact ⟨r, h, List.Perm.refl _⟩
  | cons x hp ih =>
    intro r h
    obtain ⟨d, more, hd, hm, rfl⟩ := encodeKeyed_cons_ok.1 h
    obtain ⟨more2, h2, hperm⟩ := ih more hm
    refine ⟨_, encodeKeyed_cons_ok.2 ⟨d, more2, hd, h2, rfl⟩, ?_⟩
    split
    · exact hperm
    · exact hperm.cons _
  | swap x y l =>
    intro r h
    obtain ⟨d2, _, hd2, hm1, rfl⟩ := encodeKeyed_cons_ok.1 h
    obtain ⟨d1, more, hd1, hm, rfl⟩ := encodeKeyed_cons_ok.1 hm1
    refine ⟨_, encodeKeyed_cons_ok.2 ⟨d1, _, hd1, encodeKeyed_cons_ok.2 ⟨d2, more, hd2, hm, rfl⟩, rfl⟩, ?_⟩
    -- the outputs differ only when both heads are emitted, and then by a swap
    split
    · exact List.Perm.refl _
    · split
      · exact List.Perm.refl _
      · exact List.Perm.swap _ _ _
  | trans _ _ ih1 ih2 =>
    intro r h
    obtain ⟨r2, h2, p2⟩ := ih1 r h
    obtain ⟨r3, h3, p3⟩ := ih2 r2 h2
    exact ⟨r3, h3, p2.trans p3⟩

theorem encodeKeyed_keys (excluded : Bytes → Bool) (enc : Bytes → Value → Except EncErr Doc) :
    ∀ (l : List (Bytes × Value)) r, encodeKeyed excluded enc l = .ok r →
      (r.map (·.1)).Sublist (l.map (·.1)) := by
  intro l
  induction l with
  | nil => intro r h; cases h; exact .slnil
  | cons x xs ih =>
    intro r h
    obtain ⟨d, more, _, hm, rfl⟩ := encodeKeyed_cons_ok.1 h
    split
    · exact (ih more hm).cons _
    · exact (ih more hm).cons_cons _

/-- encoding a map does not depend on the order in which its entries are enumerated: the loop
emits a permutation, and sorting a permutation of distinct keys gives the same object -/
theorem encode_map_eq_of_perm (c : EncCfg) (hs : c.sortKeys = true) (f : Nat) (scope : List Bytes) (t : Ty)
    {es₁ es₂ : List (Bytes × Value)} (hp : es₁.Perm es₂) (hn : KeysNodup es₁) {d : Doc}
    (h : encode c (f + 1) scope (.map t) (.map es₁) = .ok d) :
    encode c (f + 1) scope (.map t) (.map es₂) = .ok d := by
  rw [encode_map] at h ⊢
  obtain ⟨r₁, h1, h⟩ := bind_ok_inv h
  obtain ⟨r₂, h2, hperm⟩ := encodeKeyed_perm _ _ es₁ es₂ hp r₁ h1
  rw [h2, ← h]
  show Except.ok (c.finish r₂) = Except.ok (c.finish r₁)
  rw [EncCfg.finish, EncCfg.finish, hs, if_pos rfl, if_pos rfl,
    sortByKey_perm r₁ r₂ hperm ((encodeKeyed_keys _ _ es₁ r₁ h1).nodup hn)]

end Restli.Codec
