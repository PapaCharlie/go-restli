import Restli.Model.Ror2Reader
import Restli.Proofs.Bytes
/-! `genericMatches` indexes `path[0]`, so it panics on an empty path. The missing-fields tracker and
the epilogue of `readRecord` only ever ask it about a scope that ends in the key just entered, so they
never do. `gmatches_cons` is `genericMatches` unfolded once at a non-empty path: pass over a leading
patch operator (`skipOp`), then one child step under `*` or under the segment (`stepRes`); the panic
freedom here and the prefix-matching semantics (PathSpecSem) are both read off that equation. -/
namespace Restli.Codec

theorem ite_ne {α : Type} {c : Prop} [Decidable c] {a b x : α} (ha : c → a ≠ x) (hb : ¬c → b ≠ x) :
    (if c then a else b) ≠ x := by
  split
  · exact ha ‹_›
  · exact hb ‹_›

theorem or_ne_panic {a : MatchRes} {b : Unit → MatchRes} (ha : a ≠ .panic) (hb : b () ≠ .panic) :
    a.or b ≠ .panic := by
  cases a with
  | yes => nofun
  | no => exact hb
  | panic => exact absurd rfl ha

theorem or_yes_iff {a : MatchRes} {b : Unit → MatchRes} (ha : a ≠ .panic) :
    a.or b = .yes ↔ a = .yes ∨ b () = .yes := by
  cases a <;> simp_all [MatchRes.or]

def isOp (s : Bytes) : Bool := s == setKey || s == deleteKey

/-- the segment that is compared next, and what remains: a leading patch operator is passed over -/
def skipOp : List Bytes → Option (Bytes × List Bytes)
  | [] => none
  | [p0] => if isOp p0 then none else some (p0, [])
  | p0 :: p1 :: rest => if isOp p0 then some (p1, rest) else some (p0, p1 :: rest)

/-- what a child node answers for the rest of the path -/
def childRes (sub : List (Bytes × PathSpec)) (tl : List Bytes) : MatchRes :=
  if sub.isEmpty then .yes else if tl.isEmpty then .no else gmatches (.node sub) tl

/-- one child step of `genericMatches` -/
def stepRes (cs : List (Bytes × PathSpec)) (s : Bytes) (tl : List Bytes) : MatchRes :=
  match List.lookup s cs with
  | none => .no
  | some (.node sub) => childRes sub tl

theorem gmatches_cons (cs : List (Bytes × PathSpec)) (p0 : Bytes) (ps : List Bytes) :
    gmatches (.node cs) (p0 :: ps) =
      if cs.isEmpty then .no
      else match skipOp (p0 :: ps) with
        | none => .no
        | some (x, tl) => (stepRes cs Gen.wildCard tl).or (fun _ => stepRes cs x tl) := by
  unfold gmatches
  by_cases hc : cs.isEmpty = true
  · rw [if_pos hc, if_pos hc]
  · rw [if_neg hc, if_neg hc]
    cases ps with
    | nil =>
      simp only [skipOp, isOp]
      by_cases ho : (p0 == setKey || p0 == deleteKey) = true
      · simp [ho]
      · simp only [ho, Bool.false_eq_true, ↓reduceIte, stepRes, childRes, List.isEmpty_nil]
        rfl
    | cons p1 rest =>
      simp only [skipOp, isOp]
      by_cases ho : (p0 == setKey || p0 == deleteKey) = true
      · simp only [ho, ↓reduceIte, stepRes]; rfl
      · simp only [ho, Bool.false_eq_true, ↓reduceIte, stepRes]; rfl

theorem stepRes_ne_panic {cs : List (Bytes × PathSpec)} {tl : List Bytes}
    (h : ∀ sub, tl ≠ [] → gmatches (.node sub) tl ≠ .panic) (s : Bytes) : stepRes cs s tl ≠ .panic := by
  unfold stepRes childRes
  split
  · nofun
  · exact ite_ne (fun _ => nofun) fun _ => ite_ne (fun _ => nofun) fun hne =>
      h _ (by intro e; subst e; exact hne rfl)

theorem step_ne_panic {cs : List (Bytes × PathSpec)} {tl : List Bytes}
    (h : ∀ sub, tl ≠ [] → gmatches (.node sub) tl ≠ .panic) (a b : Bytes) :
    (stepRes cs a tl).or (fun _ => stepRes cs b tl) ≠ .panic :=
  or_ne_panic (stepRes_ne_panic h a) (stepRes_ne_panic h b)

theorem gmatches_ne_panic : (p : PathSpec) → (path : List Bytes) → path ≠ [] → gmatches p path ≠ .panic
  | _, [], h => absurd rfl h
  | .node cs, [p0], _ => by
    rw [gmatches_cons, skipOp]
    refine ite_ne (fun _ => nofun) fun _ => ?_
    cases isOp p0 with
    | true => nofun
    | false => exact step_ne_panic (fun _ h => absurd rfl h) _ _
  | .node cs, p0 :: p1 :: rest, _ => by
    rw [gmatches_cons, skipOp]
    refine ite_ne (fun _ => nofun) fun _ => ?_
    cases isOp p0 with
    | true => exact step_ne_panic (fun _ => gmatches_ne_panic _ rest) _ _
    | false => exact step_ne_panic (fun _ => gmatches_ne_panic _ (p1 :: rest)) _ _

theorem tracker_check_ne_panic (t : Tracker) (scope : List Seg) (k : Seg) :
    t.check (scope ++ [k]) ≠ .panic := by
  unfold Tracker.check
  split
  · simp
  · next h =>
    have hlen : t.ignore < (scope ++ [k]).length := by omega
    cases hd : (scope ++ [k]).drop t.ignore with
    | nil =>
      have := List.drop_eq_nil_iff.1 hd
      omega
    | cons x xs =>
      simp only [List.map_cons]
      exact gmatches_ne_panic _ _ (by simp)

/-- the scope under which the epilogue asks is never empty, so `genericMatches` cannot panic -/
theorem finishPanics_false (tr : Tracker) (scope : List Seg) (fields : List Field) (seen : List Bytes) :
    finishPanics tr scope fields seen = false := by
  unfold finishPanics
  simp only [List.any_eq_false, beq_iff_eq]
  exact fun r _ => tracker_check_ne_panic tr scope (.key r)

theorem finishRecord_ne_panic (env : Env) (tr : Tracker) (scope : List Seg) (top : Bool)
    (fields own : List Field) (fs : List (Bytes × Value)) (seen m₀ : List Bytes) :
    finishRecord env tr scope top fields own fs seen m₀ ≠ .panic := by
  unfold finishRecord
  simp only [finishPanics_false, Bool.false_eq_true, ↓reduceIte]
  split <;> simp

/-! the empty exclusion spec matches nothing -/

theorem gmatches_empty (path : List Bytes) : gmatches (PathSpec.node []) path = .no := by
  cases path with
  | nil => rfl
  | cons a as => cases as <;> rfl

theorem tracker_check_empty (ign : Nat) (scope : List Seg) :
    ({ excl := .empty, ignore := ign } : Tracker).check scope = .no := by
  unfold Tracker.check
  split
  · rfl
  · exact gmatches_empty _

theorem matchesB_empty (path : List Bytes) : (PathSpec.node []).matchesB path = false := by
  simp [PathSpec.matchesB, gmatches_empty]

end Restli.Codec
