import Restli.Spec.CleanDir
/-! `CleanTargetDir` (C20). Every recursive fact is stated for a list of sibling entries
and proved by `forest_induct`; what it means for a directory, and for the tree handed to `clean`, is
read off the equation `cleanOuter_dir`. -/
namespace Restli.CleanDir

/-- Induction over a list of siblings that also descends into each directory: the recursion of
`cleanChildren`, `pruneL`, `filesL`, `retargetL` and `noBlockL`. -/
theorem forest_induct {P : List Node → Prop} (nil : P [])
    (file : ∀ n c rest, P rest → P (.file n c :: rest))
    (dir : ∀ n cs rest, P cs → P rest → P (.dir n cs :: rest)) : ∀ cs, P cs :=
  Node.rec_1 (motive_1 := fun t => ∀ rest, P rest → P (t :: rest))
    (fun n c rest h => file n c rest h) (fun n cs ih rest h => dir n cs rest ih h) nil
    (fun _ rest ihc ihr => ihc rest ihr)

/- The equations of `cleanOuter` and `cleanChildren` take the pairs apart with projections, so that
rewriting with them needs no case split. -/

theorem cleanOuter_dir (O : Own) (dot : Bool) (n : Name) (cs : List Node) :
    cleanOuter O dot (.dir n cs) =
      if manifestBlocked O cs then ⟨some (.dir n cs), true⟩
      else if (cleanChildren O cs).2 then ⟨some (.dir n (cleanChildren O cs).1), true⟩
      else if (cleanChildren O cs).1.isEmpty && !dot then ⟨none, false⟩
      else ⟨some (.dir n (cleanChildren O cs).1), false⟩ := by
  rw [cleanOuter]

theorem cleanChildren_file (O : Own) (n : Name) (c : Leaf) (rest : List Node) :
    cleanChildren O (.file n c :: rest) =
      if owned O n then cleanChildren O rest
      else (.file n c :: (cleanChildren O rest).1, (cleanChildren O rest).2) := by
  rw [cleanChildren, owned, Bool.or_comm]

theorem cleanChildren_dir (O : Own) (n : Name) (cs rest : List Node) :
    cleanChildren O (.dir n cs :: rest) =
      if O.isManifest n then cleanChildren O rest
      else
        let r := cleanOuter O false (.dir n cs)
        (r.node.toList ++ (if r.err then dropManifest O rest else (cleanChildren O rest).1),
          r.err || (cleanChildren O rest).2) := by
  rw [cleanChildren]
  cases cleanOuter O false (.dir n cs) with
  | mk r e => cases e <;> rfl

theorem noBlock_dir (O : Own) (n : Name) (cs : List Node) :
    noBlock O (.dir n cs) = true ↔ manifestBlocked O cs = false ∧ noBlockL O cs = true := by
  rw [noBlock, Bool.and_eq_true, Bool.not_eq_true']

theorem manifestBlocked_tail {O : Own} {c : Node} {rest : List Node}
    (hm : manifestBlocked O (c :: rest) = false) : manifestBlocked O rest = false := by
  cases c with
  | file n k => exact hm
  | dir n cs => exact (Bool.or_eq_false_iff.1 hm).2

/-- where removing the manifest does not fail, a directory named like it is empty -/
theorem manifest_dir_empty {O : Own} {n : Name} {cs rest : List Node}
    (hm : manifestBlocked O (.dir n cs :: rest) = false) (hn : O.isManifest n = true) : cs = [] := by
  simpa [hn] using (Bool.or_eq_false_iff.1 hm).1

theorem filesL_toList_append (o : Option Node) (rest : List Node) :
    filesL (o.toList ++ rest) = filesO o ++ filesL rest := by
  cases o <;> rfl

/-- What is left of a directory holds the files of what is left of its children, in all four
outcomes: an emptied directory that is removed had none. -/
theorem filesO_cleanOuter_dir (O : Own) (dot : Bool) (n : Name) (cs : List Node) :
    filesO (cleanOuter O dot (.dir n cs)).node =
      (filesL (if manifestBlocked O cs then cs else (cleanChildren O cs).1)).map (FileAt.under n) := by
  rw [cleanOuter_dir]
  cases manifestBlocked O cs
  · cases (cleanChildren O cs).2
    · cases h : (cleanChildren O cs).1
      · cases dot <;> rfl
      · rfl
    · rfl
  · rfl

theorem filesO_prune_dir (O : Own) (n : Name) (cs : List Node) :
    filesO (prune O (.dir n cs)) = (filesL (pruneL O cs)).map (FileAt.under n) := by
  rw [prune]
  cases pruneL O cs <;> rfl

theorem filesL_dropManifest_sublist (O : Own) (rest : List Node) :
    (filesL (dropManifest O rest)).Sublist (filesL rest) := by
  induction rest with
  | nil => exact .slnil
  | cons c rest ih =>
    rw [dropManifest, filesL]
    split
    · exact ih.trans (List.sublist_append_right _ _)
    · exact (List.Sublist.refl _).append ih

theorem filesO_cleanOuter_dir_sublist {O : Own} (dot : Bool) (n : Name) {cs : List Node}
    (h : (filesL (cleanChildren O cs).1).Sublist (filesL cs)) :
    (filesO (cleanOuter O dot (.dir n cs)).node).Sublist (files (.dir n cs)) := by
  rw [filesO_cleanOuter_dir]
  split
  · exact .refl _
  · exact h.map _

/-- Cleaning only ever takes entries away: the files left are the old ones, in their old order. -/
theorem filesL_cleanChildren_sublist (O : Own) (cs : List Node) :
    (filesL (cleanChildren O cs).1).Sublist (filesL cs) := by
  induction cs using forest_induct with
  | nil => exact .slnil
  | file n c rest ih =>
    rw [cleanChildren_file, filesL]
    split
    · exact ih.trans (List.sublist_append_right _ _)
    · exact (List.Sublist.refl _).append ih
  | dir n cs rest ihc ihr =>
    rw [cleanChildren_dir, filesL]
    split
    · exact ihr.trans (List.sublist_append_right _ _)
    · rw [filesL_toList_append]
      refine (filesO_cleanOuter_dir_sublist false n ihc).append ?_
      split
      · exact filesL_dropManifest_sublist O rest
      · exact ihr

theorem nothing_created_children (O : Own) : (cs : List Node) → (f : FileAt) →
    f ∈ filesL (cleanChildren O cs).1 → f ∈ filesL cs :=
  fun cs _ hf => (filesL_cleanChildren_sublist O cs).subset hf

/-- an entry named like the manifest, where removing the manifest does not fail, holds nothing
foreign: it is an owned file or an empty directory -/
theorem manifest_entry_owned {O : Own} {c : Node} {rest : List Node}
    (hm : manifestBlocked O (c :: rest) = false) (hc : O.isManifest c.name = true) :
    (files c).filter (fun f => !owned O f.name) = [] := by
  cases c with
  | file n k => simp_all [files, owned, Node.name]
  | dir n cs => rw [manifest_dir_empty hm hc]; rfl

theorem foreign_dropManifest_sublist {O : Own} {rest : List Node} (hm : manifestBlocked O rest = false) :
    ((filesL rest).filter fun f => !owned O f.name).Sublist (filesL (dropManifest O rest)) := by
  induction rest with
  | nil => exact .slnil
  | cons c rest ih =>
    have ih := ih (manifestBlocked_tail hm)
    rw [filesL, List.filter_append, dropManifest]
    split
    · next hc => rw [manifest_entry_owned hm hc]; exact ih
    · exact List.filter_sublist.append ih

theorem foreign_cleanOuter_dir_sublist {O : Own} (dot : Bool) (n : Name) {cs : List Node}
    (h : manifestBlocked O cs = false →
      ((filesL cs).filter fun f => !owned O f.name).Sublist (filesL (cleanChildren O cs).1)) :
    ((files (.dir n cs)).filter fun f => !owned O f.name).Sublist
      (filesO (cleanOuter O dot (.dir n cs)).node) := by
  rw [filesO_cleanOuter_dir, files, List.filter_map]
  refine .map _ ?_
  split
  · exact List.filter_sublist
  · next hb => exact h (Bool.not_eq_true _ ▸ hb)

/-- Foreign files are kept, in their order, also when the walk stops with an error. -/
theorem foreign_cleanChildren_sublist (O : Own) (cs : List Node) (hm : manifestBlocked O cs = false) :
    ((filesL cs).filter fun f => !owned O f.name).Sublist (filesL (cleanChildren O cs).1) := by
  induction cs using forest_induct with
  | nil => exact .slnil
  | file n c rest ih =>
    rw [filesL, List.filter_append, cleanChildren_file]
    split
    · next hn => rw [files, List.filter_cons_of_neg (by simp [hn])]; exact ih hm
    · exact List.filter_sublist.append (ih hm)
  | dir n cs rest ihc ihr =>
    have ihr := ihr (manifestBlocked_tail hm)
    rw [filesL, List.filter_append, cleanChildren_dir]
    split
    · next hc => rw [manifest_entry_owned hm hc]; exact ihr
    · rw [filesL_toList_append]
      refine (foreign_cleanOuter_dir_sublist false n ihc).append ?_
      split
      · exact foreign_dropManifest_sublist (manifestBlocked_tail hm)
      · exact ihr

theorem cleanOuter_of_children {O : Own} (dot : Bool) (n : Name) {cs : List Node}
    (hm : manifestBlocked O cs = false) (hc : cleanChildren O cs = (pruneL O cs, false)) :
    cleanOuter O dot (.dir n cs) = ⟨pruneRoot O dot (.dir n cs), false⟩ := by
  rw [cleanOuter_dir, hm, hc, pruneRoot]
  cases (pruneL O cs).isEmpty && !dot <;> rfl

theorem cleanChildren_eq_pruneL {O : Own} {cs : List Node} (hb : noBlockL O cs = true)
    (hm : manifestBlocked O cs = false) : cleanChildren O cs = (pruneL O cs, false) := by
  induction cs using forest_induct with
  | nil => rfl
  | file n c rest ih =>
    rw [cleanChildren_file, ih hb hm, pruneL, prune]
    split <;> rfl
  | dir n cs rest ihc ihr =>
    rw [noBlockL, Bool.and_eq_true, noBlock_dir] at hb
    rw [cleanChildren_dir, ihr hb.2 (manifestBlocked_tail hm), pruneL]
    split
    · next hn => rw [manifest_dir_empty hm hn]; rfl
    · rw [cleanOuter_of_children false n hb.1.1 (ihc hb.1.2 hb.1.1), pruneRoot, prune]
      simp

theorem pruneL_idem (O : Own) (cs : List Node) : pruneL O (pruneL O cs) = pruneL O cs := by
  induction cs using forest_induct with
  | nil => rfl
  | file n c rest ih =>
    rw [pruneL, prune]
    split
    · exact ih
    · next ho => simp [pruneL, prune, ho, ih]
  | dir n cs rest ihc ihr =>
    rw [pruneL, prune]
    split
    · exact ihr
    · next hne => simp [pruneL, prune, ihc, hne, ihr]

theorem prune_fix (O : Own) : (t t' : Node) → prune O t = some t' → prune O t' = some t' := by
  intro t t' h
  -- the statement for one tree is the statement for the list `[t]`
  have := pruneL_idem O [t]
  simpa [pruneL, h] using this

theorem manifestBlocked_pruneL {O : Own} {cs : List Node} (h : manifestBlocked O cs = false) :
    manifestBlocked O (pruneL O cs) = false := by
  induction cs with
  | nil => rfl
  | cons c rest ih =>
    have ih := ih (manifestBlocked_tail h)
    cases c with
    | file n k => rw [pruneL, prune]; split <;> exact ih
    | dir n cs =>
      rw [pruneL, prune]
      split
      · exact ih
      · next hne =>
        cases hn : O.isManifest n
        · simpa [manifestBlocked, hn] using ih
        · -- a directory named like the manifest was empty, and is empty after pruning
          rw [manifest_dir_empty h hn] at hne
          exact absurd rfl hne

theorem noBlockL_pruneL (O : Own) (cs : List Node) (hb : noBlockL O cs = true) :
    noBlockL O (pruneL O cs) = true := by
  induction cs using forest_induct with
  | nil => rfl
  | file n c rest ih => rw [pruneL, prune]; split <;> exact ih hb
  | dir n cs rest ihc ihr =>
    rw [noBlockL, Bool.and_eq_true, noBlock_dir] at hb
    rw [pruneL, prune]
    split
    · exact ihr hb.2
    · rw [Option.toList, List.singleton_append, noBlockL, Bool.and_eq_true, noBlock_dir]
      exact ⟨⟨manifestBlocked_pruneL hb.1.1, ihc hb.1.2⟩, ihr hb.2⟩

theorem noBlock_prune (O : Own) : (t t' : Node) → noBlock O t = true → prune O t = some t' → noBlock O t' = true := by
  intro t t' hb h
  have := noBlockL_pruneL O [t]
  simpa [pruneL, noBlockL, h, hb] using this

/-- Pruning keeps exactly the files the generator does not own. -/
theorem filesL_pruneL (O : Own) (cs : List Node) :
    filesL (pruneL O cs) = (filesL cs).filter fun f => !owned O f.name := by
  induction cs using forest_induct with
  | nil => rfl
  | file n c rest ih =>
    rw [pruneL, filesL_toList_append, ih, filesL, files, prune]
    cases h : owned O n <;> simp [filesO, files, h]
  | dir n cs rest ihc ihr =>
    rw [pruneL, filesL_toList_append, filesO_prune_dir, ihc, ihr, filesL, files,
      List.filter_append, List.filter_map]
    rfl

theorem filesO_pruneRoot (O : Own) (dot : Bool) (n : Name) (cs : List Node) :
    filesO (pruneRoot O dot (.dir n cs)) = (files (.dir n cs)).filter fun f => !owned O f.name := by
  refine Eq.trans (b := (filesL (pruneL O cs)).map (FileAt.under n)) ?_ ?_
  · rw [pruneRoot]
    cases pruneL O cs
    · cases dot <;> rfl
    · rfl
  · rw [filesL_pruneL, files, List.filter_map]
    rfl

/-- after pruning no owned file is left -/
theorem prune_no_owned (O : Own) : (t t' : Node) → prune O t = some t' → ∀ f ∈ files t', owned O f.name = false := by
  intro t t' h f hf
  have : files t' = (files t).filter fun f => !owned O f.name := by
    simpa [pruneL, filesL, h] using filesL_pruneL O [t]
  rw [this] at hf
  simpa using (List.mem_filter.1 hf).2

/-- every directory left by pruning (below the root) contains a file somewhere beneath it -/
theorem pruneL_has_file (O : Own) : (cs : List Node) → pruneL O cs ≠ [] → filesL (pruneL O cs) ≠ [] := by
  intro cs
  induction cs using forest_induct with
  | nil => exact fun h => absurd rfl h
  | file n c rest ih =>
    rw [pruneL, prune]
    split
    · exact ih
    · exact fun _ => List.cons_ne_nil _ _
  | dir n cs rest ihc ihr =>
    rw [pruneL, prune]
    split
    · exact ihr
    · next hne =>
      intro _ h
      rw [filesL_toList_append, filesO, files, List.append_eq_nil_iff, List.map_eq_nil_iff] at h
      exact ihc (by simpa using hne) h.1

/-! Links are never followed: cleaning commutes with rewriting link destinations. -/

theorem retarget_name (g : String → String) (c : Node) : (retarget g c).name = c.name := by
  cases c <;> rfl

theorem manifestBlocked_retargetL (O : Own) (g : String → String) (cs : List Node) :
    manifestBlocked O (retargetL g cs) = manifestBlocked O cs := by
  induction cs with
  | nil => rfl
  | cons c rest ih =>
    cases c with
    | file n l => exact ih
    | dir n cs0 => rw [retargetL, retarget, manifestBlocked, manifestBlocked, ih]; cases cs0 <;> rfl

theorem dropManifest_retargetL (O : Own) (g : String → String) (cs : List Node) :
    dropManifest O (retargetL g cs) = retargetL g (dropManifest O cs) := by
  induction cs with
  | nil => rfl
  | cons c rest ih =>
    rw [retargetL, dropManifest, dropManifest, retarget_name, ih]
    split <;> rfl

theorem cleanOuter_retarget_dir {O : Own} {g : String → String} (dot : Bool) (n : Name) {cs : List Node}
    (h : cleanChildren O (retargetL g cs) = (retargetL g (cleanChildren O cs).1, (cleanChildren O cs).2)) :
    cleanOuter O dot (.dir n (retargetL g cs)) =
      ⟨(cleanOuter O dot (.dir n cs)).node.map (retarget g), (cleanOuter O dot (.dir n cs)).err⟩ := by
  rw [cleanOuter_dir, cleanOuter_dir, manifestBlocked_retargetL, h]
  cases manifestBlocked O cs
  · cases (cleanChildren O cs).2
    · cases (cleanChildren O cs).1
      · cases dot <;> rfl
      · rfl
    · rfl
  · rfl

theorem cleanChildren_retarget (O : Own) (g : String → String) : (cs : List Node) →
    cleanChildren O (retargetL g cs) = (retargetL g (cleanChildren O cs).1, (cleanChildren O cs).2) := by
  intro cs
  induction cs using forest_induct with
  | nil => rfl
  | file n l rest ih =>
    rw [retargetL, retarget, cleanChildren_file, cleanChildren_file, ih]
    split <;> rfl
  | dir n cs rest ihc ihr =>
    rw [retargetL, retarget, cleanChildren_dir, cleanChildren_dir, ihr,
      cleanOuter_retarget_dir false n ihc, dropManifest_retargetL]
    split
    · rfl
    · cases cleanOuter O false (.dir n cs) with
      | mk r e => cases r <;> cases e <;> rfl

/-! `Node` is nested in `List`, which `deriving DecidableEq` does not handle. With the instance the
concrete trees of `Props/C20` are compared by evaluation. -/

mutual
def decNode : (a b : Node) → Decidable (a = b)
  | .file n l, .file n' l' => decidable_of_decidable_of_eq (Node.file.injEq n l n' l').symm
  | .dir n cs, .dir n' cs' =>
    have := decList cs cs'
    decidable_of_decidable_of_eq (Node.dir.injEq n cs n' cs').symm
  | .file .., .dir .. => isFalse nofun
  | .dir .., .file .. => isFalse nofun
def decList : (a b : List Node) → Decidable (a = b)
  | [], [] => isTrue rfl
  | a :: as, b :: bs =>
    have := decNode a b
    have := decList as bs
    decidable_of_decidable_of_eq (List.cons.injEq a as b bs).symm
  | [], _ :: _ => isFalse nofun
  | _ :: _, [] => isFalse nofun
end

instance : DecidableEq Node := decNode
deriving instance DecidableEq for R

end Restli.CleanDir
