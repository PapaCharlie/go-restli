import Restli.Proofs.TreeRoundTrip
/-! Byte level: the cursor reader applied to what the ROR2 writer emitted for a value returns the
(normalised) value — composition of the typed tree round trip, the cursor/tree bridge and the
fact that the writer's output is the rendering of a well-formed raw-token tree. -/
namespace Restli.Codec
open Json (JVal)

/-- scanning `s`, `ValidateRor2Input` never fails and ends with the count of open parentheses it
started with, whatever that count and whatever follows -/
def ParenNeutral (s : Bytes) : Prop := ∀ n rest, validateRor2.go n (s ++ rest) = validateRor2.go n rest

theorem ParenNeutral.cons {c : UInt8} {s : Bytes} (hc : c ≠ 40 ∧ c ≠ 41) (hs : ParenNeutral s) :
    ParenNeutral (c :: s) := by
  intro n rest
  have h40 : (c == 40) = false := beq_eq_false_iff_ne.mpr hc.1
  have h41 : (c == 41) = false := beq_eq_false_iff_ne.mpr hc.2
  simp only [List.cons_append, validateRor2.go, h40, h41, Bool.false_eq_true, ↓reduceIte]
  exact hs n rest

theorem ParenNeutral.append {s t : Bytes} (hs : ParenNeutral s) (ht : ParenNeutral t) : ParenNeutral (s ++ t) := by
  intro n rest
  rw [List.append_assoc, hs, ht]

theorem ParenNeutral.clean {t s : Bytes} (ht : ∀ c ∈ t, c ≠ 40 ∧ c ≠ 41 ∧ c ≠ 44) (hs : ParenNeutral s) :
    ParenNeutral (t ++ s) := by
  induction t with
  | nil => exact hs
  | cons c cs ih =>
    have hc := ht c (List.mem_cons_self ..)
    exact (ih (fun c hc => ht c (List.mem_cons_of_mem _ hc))).cons ⟨hc.1, hc.2.1⟩

theorem ParenNeutral.parens {s : Bytes} (hs : ParenNeutral s) : ParenNeutral (40 :: (s ++ [41])) := by
  intro n rest
  simp only [List.cons_append, List.append_assoc, validateRor2.go, beq_self_eq_true, ↓reduceIte]
  rw [hs]
  rfl

theorem renderRaw_parenNeutral :
    (∀ t, RawWF t → ParenNeutral (renderRaw t)) ∧ (∀ kvs, RawWFKvs kvs → ParenNeutral (renderRawKvs kvs)) ∧
    (∀ xs, RawWFItems xs → ParenNeutral (renderRawItems xs)) := by
  have hmember : ∀ k v, keyClean k → ParenNeutral (renderRaw v) → ParenNeutral (k ++ 58 :: renderRaw v) :=
    fun k v hk hv => ParenNeutral.clean (keyClean_tokClean hk).2 (ParenNeutral.cons (by decide) hv)
  refine rawWF_induct ?_ (fun _ _ ih => ParenNeutral.parens ih)
    (fun _ _ ih => ParenNeutral.clean (t := [76, 105, 115, 116]) (by decide) (ParenNeutral.parens ih))
    (fun _ _ => rfl) ?_ (fun _ _ => rfl) ?_
  · intro tok h
    rw [renderRaw, ← List.append_nil tok]
    exact ParenNeutral.clean h.2 (fun _ _ => rfl)
  · intro k v rest hk _ _ hv hr
    cases rest with
    | nil => exact hmember k v hk hv
    | cons _ _ => exact ParenNeutral.append (hmember k v hk hv) (ParenNeutral.cons (c := 44) (by decide) hr)
  · intro v rest _ _ hv hr
    cases rest with
    | nil => exact hv
    | cons _ _ => exact ParenNeutral.append hv (ParenNeutral.cons (c := 44) (by decide) hr)

theorem go_rawKvs : (kvs : List (Bytes × JVal)) → RawWFKvs kvs → ∀ n rest,
    validateRor2.go n (renderRawKvs kvs ++ rest) = validateRor2.go n rest :=
  renderRaw_parenNeutral.2.1
theorem go_rawItems : (xs : List JVal) → RawWFItems xs → ∀ n rest,
    validateRor2.go n (renderRawItems xs ++ rest) = validateRor2.go n rest :=
  renderRaw_parenNeutral.2.2

theorem validate_raw (t : JVal) (h : RawWF t) : validateRor2 (renderRaw t) = true := by
  have := renderRaw_parenNeutral.1 t h 0 []
  rwa [List.append_nil] at this

theorem need_le_all :
    (∀ t, RawWF t → needT t ≤ 3 * (renderRaw t).length) ∧
    (∀ kvs, RawWFKvs kvs → needKvs kvs ≤ 3 * (renderRawKvs kvs).length + 1) ∧
    (∀ xs, RawWFItems xs → needItems xs ≤ 3 * (renderRawItems xs).length + 4) := by
  -- `3 *`: the dearest byte is a one-byte token (`needT = 2`) with its `:` or `,`, and a loop iteration
  -- costs 3. `+ 1`: the loop's exit step. `+ 4`: the exit step and the last element's iteration, which
  -- no `,` pays for. The brackets of the enclosing container absorb both.
  refine rawWF_induct ?_ ?_ ?_ (Nat.le_refl 1) ?_ (by decide) ?_
  · intro tok h
    have : tok.length ≠ 0 := fun h0 => h.1 (List.eq_nil_of_length_eq_zero h0)
    simp only [needT, renderRaw]
    omega
  · intro kvs _ ih
    simp only [needT, renderRaw, List.length_cons, List.length_append, List.length_nil]
    omega
  · intro xs _ ih
    simp only [needT, renderRaw, listPrefix_eq, List.length_cons, List.length_append, List.length_nil]
    omega
  · intro k v rest _ _ _ hv hr
    cases rest with
    | nil =>
      simp only [needKvs, renderRawKvs, List.length_cons, List.length_append]
      omega
    | cons _ _ =>
      rw [needKvs]
      simp only [renderRawKvs, List.length_cons, List.length_append]
      omega
  · intro v rest _ _ hv hr
    cases rest with
    | nil =>
      simp only [needItems, renderRawItems]
      omega
    | cons _ _ =>
      rw [needItems]
      simp only [renderRawItems, List.length_cons, List.length_append]
      omega

theorem needT_le : (t : JVal) → RawWF t → needT t ≤ 3 * (renderRaw t).length :=
  need_le_all.1
theorem needKvs_le : (kvs : List (Bytes × JVal)) → RawWFKvs kvs → needKvs kvs ≤ 3 * (renderRawKvs kvs).length + 1 :=
  need_le_all.2.1
theorem needItems_le : (xs : List JVal) → RawWFItems xs → needItems xs ≤ 3 * (renderRawItems xs).length + 4 :=
  need_le_all.2.2

/-- the leaf clauses of `rawOf`; `treeOf` never hands it a container, the last clause is a filler -/
def rawLeaf (esc : Bytes → Bytes) : Doc → JVal
  | .int v => .str (Strconv.formatInt v)
  | .f64 b => .str (ror2Float esc b)
  | .bool b => .str (if b then trueB else falseB)
  | .str b => .str (ror2Str esc b)
  | .bytes b => .str (ror2Str esc b)
  | _ => .str []

/-- ROR2: every leaf is a raw token, keys are escaped like strings -/
def rawEnc (esc : Bytes → Bytes) (plus : Bool) : TreeEnc :=
  { sem := ror2Sem plus, key := ror2Str esc, leaf := rawLeaf esc }

theorem rawOf_eq_all (esc : Bytes → Bytes) (plus : Bool) :
    (∀ d, rawOf esc d = treeOf (rawEnc esc plus) d) ∧
    (∀ kvs, rawOfKvs esc kvs = treeOfKvs (rawEnc esc plus) kvs) ∧
    (∀ xs, rawOfItems esc xs = treeOfItems (rawEnc esc plus) xs) :=
  Doc.induct3 (fun _ => rfl) (fun _ => rfl)
    (fun _ => rfl) (fun _ => rfl) (fun _ => rfl)
    (fun kvs ih => by rw [rawOf, treeOf, ih]) (fun xs ih => by rw [rawOf, treeOf, ih])
    (by rw [rawOfKvs, treeOfKvs]) (fun k v rest ihv ihr => by rw [rawOfKvs, treeOfKvs, ihv, ihr]; rfl)
    (by rw [rawOfItems, treeOfItems]) (fun v rest ihv ihr => by rw [rawOfItems, treeOfItems, ihv, ihr])

theorem rawOf_eq_treeOf (esc : Bytes → Bytes) (plus : Bool) : (d : Doc) → rawOf esc d = treeOf (rawEnc esc plus) d :=
  (rawOf_eq_all esc plus).1
theorem rawOfKvs_eq (esc : Bytes → Bytes) (plus : Bool) : (kvs : List (Bytes × Doc)) →
    rawOfKvs esc kvs = treeOfKvs (rawEnc esc plus) kvs :=
  (rawOf_eq_all esc plus).2.1
theorem rawOfItems_eq (esc : Bytes → Bytes) (plus : Bool) : (xs : List Doc) →
    rawOfItems esc xs = treeOfItems (rawEnc esc plus) xs :=
  (rawOf_eq_all esc plus).2.2

theorem rawLaws (esc : Bytes → Bytes) (plus : Bool) (E : EscLaws esc plus) (F : FloatLaws) :
    TreeLaws (rawEnc esc plus) where
  key_rt := decodeKey_ror2Str E
  leaf_ne_null := by intro d; cases d <;> simp [rawEnc, rawLeaf]
  prim_rt := by
    intro p v doc hv h
    unfold encPrim at h
    split at h <;> cases h
    · exact congrArg liftTok (tokPrim_i32 plus _ hv.1 hv.2)
    · exact congrArg liftTok (tokPrim_i64 plus _ hv.1 hv.2)
    · exact congrArg liftTok (tokPrim_f32 E F _ hv)
    · exact congrArg liftTok (tokPrim_f64 E F _ hv)
    · exact congrArg liftTok (tokPrim_bool plus _)
    · exact congrArg liftTok (tokPrim_str E _)
    · exact congrArg liftTok (tokPrim_bytes E _)
  str_rt := by
    intro s
    simp [rawEnc, rawLeaf, ror2Sem, tokString_ror2Str E s]

def ror2Ctx (env : Env) (esc : Bytes → Bytes) (plus : Bool) (E : EscLaws esc plus) (F : FloatLaws)
    (S : SchemaOK env) : RTCtx :=
  { env := env, enc := rawEnc esc plus, L := rawLaws esc plus E F, S := S }

/-- the cursor reader matching the writer configuration, as a whole-input reader (`query = false`)
or as the per-parameter reader of a query string (`query = true`) -/
def ror2RcQ (env : Env) (plus : Bool) (ign : Nat) (query : Bool) : RCfg :=
  { env := env, tracker := { excl := .empty, ignore := ign }, plus := plus, query := query }

/-- **ROR2 round trip at byte level** for values of every type (bare primitives, enums, fixed,
arrays as well as objects) written on their own — an entity key, a header value, the value of a
query parameter — and read from position 0 under any reader scope. -/
theorem ror2_roundtrip_any (env : Env) (esc : Bytes → Bytes) (plus : Bool) (E : EscLaws esc plus) (F : FloatLaws)
    (S : SchemaOK env) (ign f : Nat) (query : Bool) (scopeW : List Bytes) (scopeR : List Seg)
    (ty : Ty) (v : Value) (doc : Doc) (fuel : Nat) (hfuel : 3 * (renderRor2 esc doc).length ≤ fuel)
    (hv : ValOK v) (henc : encode (ror2Ctx env esc plus E F S).cfg f scopeW ty v = .ok doc) :
    readTy (ror2RcQ env plus ign query) fuel scopeR ty
        { rest := renderRor2 esc doc, start := true, missing := [] } =
      .ok (norm env f ty v) { rest := [], start := false, missing := [] } := by
  have hwf : RawWF (rawOf esc doc) := rawOf_wf esc plus E F _
  rw [renderRor2_eq_renderRaw] at hfuel ⊢
  rw [bridge_top (ror2RcQ env plus ign query) _ hwf fuel (Nat.le_trans (needT_le _ hwf) hfuel) scopeR ty,
    rawOf_eq_treeOf esc plus]
  exact congrArg (liftT · _)
    (roundtrip_tree (ror2Ctx env esc plus E F S) ign f scopeW scopeR (!query) ty v _ hv henc)

/-- the whole-input reader that matches the writer configuration -/
def ror2Rc (env : Env) (plus : Bool) (ign : Nat) : RCfg := ror2RcQ env plus ign false

/-- **ROR2 round trip at byte level** for every value whose encoding is an object (records, maps,
unions — at any nesting depth inside): `Unmarshal(Marshal(v)) = norm env f ty v`, `f` being the nesting
budget the writer succeeded with; all input consumed, nothing reported missing. -/
theorem ror2_roundtrip_obj (env : Env) (esc : Bytes → Bytes) (plus : Bool) (E : EscLaws esc plus) (F : FloatLaws)
    (S : SchemaOK env) (ign f : Nat) (ty : Ty) (v : Value) (kvs : List (Bytes × Doc))
    (hv : ValOK v) (henc : encode (ror2Ctx env esc plus E F S).cfg f [] ty v = .ok (.obj kvs)) :
    unmarshalRor2 (ror2Rc env plus ign) ty (renderRor2 esc (.obj kvs)) =
      .ok (norm env f ty v) { rest := [], start := false, missing := [] } := by
  have hval : validateRor2 (renderRor2 esc (.obj kvs)) = true := by
    rw [renderRor2_eq_renderRaw]; exact validate_raw _ (rawOf_wf esc plus E F _)
  rw [unmarshalRor2, hval, Bool.not_true, if_neg Bool.false_ne_true]
  -- `unmarshalRor2` starts the reader with fuel `3 * data.length + 8`
  exact ror2_roundtrip_any env esc plus E F S ign f false [] [] ty v _ _ (Nat.le_add_right _ 8) hv henc

end Restli.Codec
