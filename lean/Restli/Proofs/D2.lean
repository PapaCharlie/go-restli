import Restli.Model.D2
import Restli.Spec.D2
import Restli.Proofs.Bytes
/-! On a well-formed snapshot the handler is the specification's reading of the event followed by one
map operation (`handle_eq`). Selection is analysed through the position-returning twin of the second
pass started at `0 none` (`stopIdx`). -/
namespace Restli.D2

def keys (m : UriMap) : List Bytes := m.map Prod.fst

theorem mapLookup_mapSet (k k' : Bytes) (v : Uri) (m : UriMap) :
    mapLookup k' (mapSet k v m) = if k = k' then some v else mapLookup k' m := by
  induction m with
  | nil => rfl
  | cons kv r ih =>
    by_cases h0 : kv.1 = k
    · rw [mapSet, if_pos h0, mapLookup, mapLookup, h0]
      exact ite_congr rfl (fun _ => rfl) fun h => (if_neg h).symm
    · rw [mapSet, if_neg h0, mapLookup, mapLookup, ih]
      by_cases h1 : kv.1 = k'
      · rw [if_pos h1, if_pos h1, if_neg (fun h => h0 (h1.trans h.symm))]
      · rw [if_neg h1, if_neg h1]

theorem mapLookup_mapDelete (k k' : Bytes) (m : UriMap) :
    mapLookup k' (mapDelete k m) = if k = k' then none else mapLookup k' m := by
  induction m with
  | nil => exact (ite_self _).symm
  | cons kv r ih =>
    by_cases h0 : kv.1 = k
    · rw [mapDelete, if_pos h0, ih, mapLookup, h0]
      exact ite_congr rfl (fun _ => rfl) fun h => (if_neg h).symm
    · rw [mapDelete, if_neg h0, mapLookup, mapLookup, ih]
      by_cases h1 : kv.1 = k'
      · rw [if_pos h1, if_pos h1, if_neg (fun h => h0 (h1.trans h.symm))]
      · rw [if_neg h1, if_neg h1]

theorem mapSet_not_mem (k : Bytes) (v : Uri) (m : UriMap) (h : k ∉ keys m) :
    mapSet k v m = m ++ [(k, v)] := by
  induction m with
  | nil => rfl
  | cons kv r ih =>
    obtain ⟨k0, v0⟩ := kv
    rw [mapSet, if_neg fun e : k0 = k => h (e ▸ List.mem_cons_self), ih fun hr => h (List.mem_cons_of_mem _ hr)]
    rfl

theorem keys_mapSet_mem (k : Bytes) (v : Uri) (m : UriMap) (h : k ∈ keys m) :
    keys (mapSet k v m) = keys m := by
  induction m with
  | nil => cases h
  | cons kv r ih =>
    obtain ⟨k0, v0⟩ := kv
    rw [mapSet]
    by_cases h0 : k0 = k
    · rw [if_pos h0]; exact congrArg (· :: keys r) h0.symm
    · rw [if_neg h0]
      exact congrArg (k0 :: ·) (ih ((List.mem_cons.1 h).resolve_left fun e => h0 e.symm))

theorem keys_mapSet_nodup (k : Bytes) (v : Uri) (m : UriMap) (h : (keys m).Nodup) :
    (keys (mapSet k v m)).Nodup := by
  by_cases hk : k ∈ keys m
  · rw [keys_mapSet_mem k v m hk]; exact h
  · rw [mapSet_not_mem k v m hk, keys, List.map_append, List.nodup_append]
    refine ⟨h, List.nodup_cons.2 ⟨List.not_mem_nil, List.nodup_nil⟩, fun a ha b hb e => hk ?_⟩
    have hb : b = k := List.mem_singleton.1 hb
    exact hb ▸ e ▸ ha

theorem keys_mapDelete_sublist (k : Bytes) (m : UriMap) : (keys (mapDelete k m)).Sublist (keys m) := by
  induction m with
  | nil => exact List.Sublist.slnil
  | cons kv r ih =>
    obtain ⟨k0, v0⟩ := kv
    rw [mapDelete]
    by_cases h0 : k0 = k
    · rw [if_pos h0]; exact List.Sublist.cons _ ih
    · rw [if_neg h0]; exact List.Sublist.cons_cons _ ih

theorem foldl_mapSet_append (m acc : UriMap) (h : (keys (acc ++ m)).Nodup) :
    m.foldl (fun acc e => mapSet e.1 e.2 acc) acc = acc ++ m := by
  induction m generalizing acc with
  | nil => exact (List.append_nil acc).symm
  | cons kv r ih =>
    have hk : kv.1 ∉ keys acc := by
      rw [keys, List.map_append, List.nodup_append] at h
      exact fun hk => h.2.2 _ hk _ List.mem_cons_self rfl
    rw [List.foldl_cons, mapSet_not_mem _ _ acc hk, ih _ (List.append_cons .. ▸ h), ← List.append_cons]

theorem mapCopy_eq (m : UriMap) (hm : (keys m).Nodup) : mapCopy m = m :=
  foldl_mapSet_append m [] hm

theorem mapLookup_eq_lookup (k : Bytes) (m : UriMap) : mapLookup k m = m.lookup k := by
  induction m with
  | nil => rfl
  | cons kv r ih =>
    obtain ⟨k0, v0⟩ := kv
    rw [mapLookup, List.lookup_cons, ih]
    by_cases h : k0 = k
    · rw [if_pos h, beq_iff_eq.2 h.symm]
    · rw [if_neg h, beq_eq_false_iff_ne.2 (Ne.symm h)]

theorem mem_iff_mapLookup (m : UriMap) (hm : (keys m).Nodup) (k : Bytes) (v : Uri) :
    (k, v) ∈ m ↔ mapLookup k m = some v := by
  rw [mapLookup_eq_lookup]
  exact ⟨lookup_of_mem hm, lookup_mem⟩

theorem mem_iterSeq (m : UriMap) (hm : (keys m).Nodup) (e : Entry) :
    e ∈ iterSeq m ↔ ∃ n u, mapLookup n m = some u ∧ e ∈ u.weights := by
  simp only [iterSeq, List.mem_flatMap]
  constructor
  · rintro ⟨⟨k, u⟩, hkv, he⟩
    exact ⟨k, u, (mem_iff_mapLookup m hm k u).1 hkv, he⟩
  · rintro ⟨n, u, hl, he⟩
    exact ⟨(n, u), (mem_iff_mapLookup m hm n u).2 hl, he⟩

/-- Go-map well-formedness of a snapshot -/
def Inv (w : ServiceUris) : Prop := (keys w.uris).Nodup

theorem copy_eq (w : ServiceUris) (h : Inv w) : w.copy = w := by
  cases w with
  | mk z u => simp only [ServiceUris.copy, mapCopy_eq u h]

/-- the specification's relative path and `strings.TrimPrefix` agree, whatever is returned when
the root is no prefix -/
theorem relPath?_getD (d zk p : Bytes) :
    (Spec.relPath? zk p).getD d = if zk.isPrefixOf p then p.drop zk.length else d := by
  induction zk generalizing p with
  | nil => rfl
  | cons z zs ih =>
    cases p with
    | nil => rfl
    | cons c cs =>
      rw [Spec.relPath?, List.isPrefixOf, List.length_cons, List.drop_succ_cons]
      by_cases h : z = c
      · rw [if_pos h, ih, beq_iff_eq.2 h, Bool.true_and]
      · rw [if_neg h, beq_eq_false_iff_ne.2 h, Bool.false_and]; rfl

theorem relPath?_eq (zk p : Bytes) : (Spec.relPath? zk p).getD p = trimPrefix p zk :=
  relPath?_getD p zk p

/-- what an event, as the specification reads it, does to the announcement map -/
def applyEv : Option (Spec.Ev Uri) → UriMap → UriMap
  | some ⟨n, .announce a⟩, m => mapSet n a m
  | some ⟨n, .delete⟩, m => mapDelete n m
  | _, m => m

/-- On a well-formed snapshot `copy` is the identity, and the handler is the specification's reading
of the event followed by one map operation. -/
theorem handle_eq (w : ServiceUris) (e : Event) (h : Inv w) :
    handleUriUpdate w e = { w with uris := applyEv (Spec.readEvent w.zkPath e) w.uris } := by
  rw [handleUriUpdate, Spec.readEvent, relPath?_eq, copy_eq w h]
  dsimp only
  by_cases hp : trimPrefix e.path w.zkPath = []
  · rw [if_pos hp, if_pos hp]; rfl
  · rw [if_neg hp, if_neg hp]
    cases e.data with
    | none => rfl
    | some pl =>
      cases pl with
      | malformed => rfl
      | uri u =>
        dsimp only
        by_cases hw : u.weights = []
        · rw [if_pos hw, if_pos (List.length_eq_zero_iff.2 hw)]; rfl
        · rw [if_neg hw, if_neg (mt List.length_eq_zero_iff.1 hw)]; rfl

theorem applyEv_nodup (o : Option (Spec.Ev Uri)) (m : UriMap) (h : (keys m).Nodup) :
    (keys (applyEv o m)).Nodup := by
  unfold applyEv
  split
  · exact keys_mapSet_nodup _ _ _ h
  · exact (keys_mapDelete_sublist _ _).nodup h
  · exact h

theorem lookup_applyEv (n : Bytes) (ev : Spec.Ev Uri) (older : List (Spec.Ev Uri)) (m : UriMap)
    (h : mapLookup n m = Spec.lastValidRev n older) :
    mapLookup n (applyEv (some ev) m) = Spec.lastValidRev n (ev :: older) := by
  obtain ⟨node, change⟩ := ev
  cases change with
  | announce a => rw [applyEv, mapLookup_mapSet, h]; rfl
  | delete => rw [applyEv, mapLookup_mapDelete, h]; rfl
  | malformed => simp only [applyEv, Spec.lastValidRev, h, ite_self]
  | weightless => simp only [applyEv, Spec.lastValidRev, h, ite_self]

/-- The fold, with the newest event first (`Spec.lastValidRev` reads histories that way): the snapshot
stays well-formed, keeps its root, and answers every lookup as the specification does. -/
theorem foldr_handle_lookup (zk : Bytes) (r : List Event) :
    Inv (r.foldr (fun e w => handleUriUpdate w e) (ServiceUris.init zk)) ∧
    (r.foldr (fun e w => handleUriUpdate w e) (ServiceUris.init zk)).zkPath = zk ∧
    ∀ n, mapLookup n (r.foldr (fun e w => handleUriUpdate w e) (ServiceUris.init zk)).uris =
      Spec.lastValidRev n (r.filterMap (Spec.readEvent zk)) := by
  induction r with
  | nil => exact ⟨List.nodup_nil, rfl, fun _ => rfl⟩
  | cons e r ih =>
    obtain ⟨hinv, hzk, hlook⟩ := ih
    rw [List.foldr_cons, handle_eq _ e hinv, hzk, List.filterMap_cons]
    refine ⟨applyEv_nodup _ _ hinv, rfl, fun n => ?_⟩
    cases Spec.readEvent zk e with
    | none => exact hlook n
    | some ev => exact lookup_applyEv n ev _ _ (hlook n)

theorem runUpdates_lookup (zk : Bytes) (h : List Event) :
    Inv (runUpdates (ServiceUris.init zk) h) ∧
    ∀ n, mapLookup n (runUpdates (ServiceUris.init zk) h).uris = Spec.lastValid n (Spec.readHistory zk h) := by
  have := foldr_handle_lookup zk h.reverse
  rw [List.foldr_reverse, List.filterMap_reverse] at this
  exact ⟨this.1, this.2.2⟩

theorem snapshots_length (w : ServiceUris) (h : List Event) : (snapshots w h).length = h.length + 1 := by
  induction h generalizing w with
  | nil => rfl
  | cons e r ih => simp [snapshots, ih]

theorem snapshots_getElem? (w : ServiceUris) (h : List Event) (i : Nat) (hi : i ≤ h.length) :
    (snapshots w h)[i]? = some (runUpdates w (h.take i)) := by
  induction h generalizing w i with
  | nil =>
    have : i = 0 := by simpa using hi
    subst this; rfl
  | cons e r ih =>
    cases i with
    | zero => rfl
    | succ j =>
      simp only [snapshots, List.getElem?_cons_succ, List.take_succ_cons, runUpdates, List.foldl_cons]
      exact ih _ j (by simpa using hi)

/-- `copy()` then one write: the fresh cell holds the written copy, nothing older is touched -/
theorem Heap.alloc_modify (H : Heap) (v : ServiceUris) (f : ServiceUris → ServiceUris) :
    ((H.alloc v).1.modify (H.alloc v).2 f).get? (H.alloc v).2 = some (f v) ∧
    H.size ≤ ((H.alloc v).1.modify (H.alloc v).2 f).size ∧
    ∀ b, b < H.size → ((H.alloc v).1.modify (H.alloc v).2 f).get? b = H.get? b := by
  unfold Heap.alloc Heap.modify Heap.get? Heap.size
  refine ⟨?_, ?_, fun b hb => ?_⟩
  · rw [List.getElem?_modify_eq, List.getElem?_concat_length]; rfl
  · rw [List.length_modify, List.length_append]; exact Nat.le_add_right _ _
  · rw [List.getElem?_modify_ne _ _ (Nat.ne_of_gt hb), List.getElem?_append_left hb]

theorem handleH_refines (H : Heap) (a : Nat) (e : Event) (w : ServiceUris) (hg : H.get? a = some w) :
    ∃ H' a', handleUriUpdateH H a e = some (H', a') ∧ H'.get? a' = some (handleUriUpdate w e) ∧
      H.size ≤ H'.size ∧ ∀ b, b < H.size → H'.get? b = H.get? b := by
  unfold handleUriUpdateH handleUriUpdate
  rw [hg]
  dsimp only
  by_cases hp : trimPrefix e.path w.zkPath = []
  · rw [if_pos hp, if_pos hp]; exact ⟨H, a, rfl, hg, Nat.le_refl _, fun _ _ => rfl⟩
  · rw [if_neg hp, if_neg hp]
    cases e.data with
    | none => exact ⟨_, _, rfl, Heap.alloc_modify H w.copy _⟩
    | some pl =>
      cases pl with
      | malformed => exact ⟨H, a, rfl, hg, Nat.le_refl _, fun _ _ => rfl⟩
      | uri u =>
        dsimp only
        by_cases hl : u.weights.length = 0
        · rw [if_pos hl, if_pos hl]; exact ⟨H, a, rfl, hg, Nat.le_refl _, fun _ _ => rfl⟩
        · rw [if_neg hl, if_neg hl]; exact ⟨_, _, rfl, Heap.alloc_modify H w.copy _⟩

theorem runH_refines (H : Heap) (a : Nat) (h : List Event) (w : ServiceUris) (hg : H.get? a = some w) :
    ∃ H' a', runUpdatesH H a h = some (H', a') ∧ H'.get? a' = some (runUpdates w h) ∧
      H.size ≤ H'.size ∧ ∀ b, b < H.size → H'.get? b = H.get? b := by
  induction h generalizing H a w with
  | nil => exact ⟨H, a, rfl, hg, Nat.le_refl _, fun _ _ => rfl⟩
  | cons e r ih =>
    obtain ⟨H1, a1, h1, g1, s1, f1⟩ := handleH_refines H a e w hg
    obtain ⟨H2, a2, h2, g2, s2, f2⟩ := ih H1 a1 (handleUriUpdate w e) g1
    refine ⟨H2, a2, ?_, ?_, Nat.le_trans s1 s2, ?_⟩
    · rw [runUpdatesH, h1]; exact h2
    · exact g2
    · intro b hb
      rw [f2 b (Nat.lt_of_lt_of_le hb s1), f1 b hb]

theorem runH_append (H : Heap) (a : Nat) (h h' : List Event) :
    runUpdatesH H a (h ++ h') =
      match runUpdatesH H a h with
      | none => none
      | some (H', a') => runUpdatesH H' a' h' := by
  induction h generalizing H a with
  | nil => simp [runUpdatesH]
  | cons e r ih =>
    simp only [List.cons_append, runUpdatesH]
    cases handleUriUpdateH H a e with
    | none => rfl
    | some p => obtain ⟨H1, a1⟩ := p; exact ih H1 a1

theorem totalWeight_eq_weightOf (f : Host → Bool) (es : List Entry) :
    totalWeight f es = Spec.weightOf f es := by
  induction es with
  | nil => rfl
  | cons e r ih =>
    simp only [totalWeight, Spec.weightOf, List.filter_cons] at ih ⊢
    cases f e.1 <;> simp [ih]

theorem totalWeight_perm (f : Host → Bool) {a b : List Entry} (h : a.Perm b) :
    totalWeight f a = totalWeight f b := by
  rw [totalWeight_eq_weightOf, totalWeight_eq_weightOf]
  exact ((h.filter _).map _).sum_nat

theorem totalWeight_append (f : Host → Bool) (a b : List Entry) :
    totalWeight f (a ++ b) = totalWeight f a + totalWeight f b := by
  simp only [totalWeight_eq_weightOf, Spec.weightOf, List.filter_append, List.map_append, List.sum_append_nat]

theorem totalWeight_pos_iff (f : Host → Bool) (es : List Entry) :
    0 < totalWeight f es ↔ ∃ e ∈ es, f e.1 = true ∧ 0 < e.2 := by
  rw [totalWeight_eq_weightOf, Spec.weightOf, List.sum_pos_iff_exists_pos_nat]
  simp only [List.mem_map, List.mem_filter]
  exact ⟨fun ⟨_, ⟨e, he, rfl⟩, hw⟩ => ⟨e, he.1, he.2, hw⟩, fun ⟨e, he, hf, hw⟩ => ⟨_, ⟨e, ⟨he, hf⟩, rfl⟩, hw⟩⟩

/-! The second pass.
Hosts failing the filter and, when the eligible total is positive, hosts of weight zero are passed
over; what is left is `visits`. Both loops are read through two equations (an entry is passed over /
is visited), and only the position-returning twin started at `0 none` (`stopIdx`) is analysed. -/

/-- the entries the second pass does not pass over -/
def visits (f : Host → Bool) (skipZero : Bool) (e : Entry) : Bool :=
  f e.1 && !(skipZero && e.2 == 0)

section SecondPass
variable {f : Host → Bool} {q : Nat} {s : Bool}

theorem visits_eq_false {e : Entry} :
    visits f s e = false ↔ f e.1 = false ∨ (s && e.2 == 0) = true := by
  simp only [visits, Bool.and_eq_false_iff, Bool.not_eq_false']
theorem visits_eq_true {e : Entry} :
    visits f s e = true ↔ f e.1 = true ∧ (s && e.2 == 0) = false := by
  simp only [visits, Bool.and_eq_true, Bool.not_eq_true']

theorem visits_skipZero {e : Entry} :
    visits f true e = true ↔ f e.1 = true ∧ 0 < e.2 := by
  rw [visits_eq_true, Bool.true_and, beq_eq_false_iff_ne, Nat.pos_iff_ne_zero]

theorem visits_noSkip {e : Entry} : visits f false e = f e.1 := by
  rw [visits, Bool.false_and, Bool.not_false, Bool.and_true]

theorem chooseLoopIdx_skip {e : Entry} {r : List Entry} {rw : Int}
    {i : Nat} {last : Option Nat} (hv : visits f s e = false) :
    chooseLoopIdx f q s (e :: r) rw i last = chooseLoopIdx f q s r rw (i + 1) last := by
  rcases visits_eq_false.1 hv with h | h
  · simp only [chooseLoopIdx, h, Bool.not_false, if_true]
  · simp only [chooseLoopIdx, h, if_true, ite_self]

theorem chooseLoopIdx_visit {e : Entry} {r : List Entry} {rw : Int}
    {i : Nat} {last : Option Nat} (hv : visits f s e = true) :
    chooseLoopIdx f q s (e :: r) rw i last =
      if rw - ((q * e.2 : Nat) : Int) ≤ 0 then some i
      else chooseLoopIdx f q s r (rw - ((q * e.2 : Nat) : Int)) (i + 1) (some i) := by
  obtain ⟨h1, h2⟩ := visits_eq_true.1 hv
  simp only [chooseLoopIdx, h1, h2, Bool.not_true, Bool.false_eq_true, if_false]

theorem chooseLoop_skip {e : Entry} {r : List Entry} {rw : Int}
    {last : Option Host} (hv : visits f s e = false) :
    chooseLoop f q s (e :: r) rw last = chooseLoop f q s r rw last := by
  rcases visits_eq_false.1 hv with h | h
  · simp only [chooseLoop, h, Bool.not_false, if_true]
  · simp only [chooseLoop, h, if_true, ite_self]

theorem chooseLoop_visit {e : Entry} {r : List Entry} {rw : Int}
    {last : Option Host} (hv : visits f s e = true) :
    chooseLoop f q s (e :: r) rw last =
      if rw - ((q * e.2 : Nat) : Int) ≤ 0 then some e.1
      else chooseLoop f q s r (rw - ((q * e.2 : Nat) : Int)) (some e.1) := by
  obtain ⟨h1, h2⟩ := visits_eq_true.1 hv
  simp only [chooseLoop, h1, h2, Bool.not_true, Bool.false_eq_true, if_false]

/-- where the second pass stops, counted from the head of `it` -/
def stopIdx (f : Host → Bool) (q : Nat) (s : Bool) (it : List Entry) (rw : Int) : Option Nat :=
  chooseLoopIdx f q s it rw 0 none

/-- `i` and `last` are bookkeeping: the twin started anywhere is `stopIdx` shifted -/
theorem chooseLoopIdx_eq_stopIdx (it : List Entry) (rw : Int) (i : Nat) (last : Option Nat) :
    chooseLoopIdx f q s it rw i last =
      match stopIdx f q s it rw with
      | some j => some (j + i)
      | none => last := by
  induction it generalizing rw i last with
  | nil => rfl
  | cons e r ih =>
    cases hv : visits f s e
    · rw [stopIdx, chooseLoopIdx_skip hv, chooseLoopIdx_skip hv,
        ih rw (i + 1) last, ih rw (0 + 1) none]
      cases stopIdx f q s r rw with
      | none => rfl
      | some j => exact congrArg some (Nat.add_right_comm j i 1)
    · rw [stopIdx, chooseLoopIdx_visit hv, chooseLoopIdx_visit hv]
      split
      · exact congrArg some (Nat.zero_add i).symm
      · rw [ih _ (i + 1) (some i), ih _ (0 + 1) (some 0)]
        cases stopIdx f q s r (rw - ((q * e.2 : Nat) : Int)) with
        | none => exact congrArg some (Nat.zero_add i).symm
        | some j => exact congrArg some (Nat.add_right_comm j i 1)

theorem stopIdx_skip {e : Entry} {r : List Entry} {rw : Int}
    (hv : visits f s e = false) :
    stopIdx f q s (e :: r) rw = (stopIdx f q s r rw).map (· + 1) := by
  rw [stopIdx, chooseLoopIdx_skip hv, chooseLoopIdx_eq_stopIdx]
  cases stopIdx f q s r rw <;> rfl

/-- a visited entry is where the loop stops unless it stops later: the fall-back `lastEligible` -/
theorem stopIdx_visit {e : Entry} {r : List Entry} {rw : Int}
    (hv : visits f s e = true) :
    stopIdx f q s (e :: r) rw =
      if rw - ((q * e.2 : Nat) : Int) ≤ 0 then some 0
      else some ((stopIdx f q s r (rw - ((q * e.2 : Nat) : Int))).elim 0 (· + 1)) := by
  rw [stopIdx, chooseLoopIdx_visit hv]
  split
  · rfl
  · rw [chooseLoopIdx_eq_stopIdx]
    cases stopIdx f q s r (rw - ((q * e.2 : Nat) : Int)) <;> rfl

theorem stopIdx_some {it : List Entry} {rw : Int} {j : Nat} (hj : stopIdx f q s it rw = some j) :
    ∃ e, it[j]? = some e ∧ visits f s e = true := by
  induction it generalizing rw j with
  | nil => cases hj
  | cons e r ih =>
    cases hv : visits f s e
    · rw [stopIdx_skip hv] at hj
      obtain ⟨k, hk, rfl⟩ := Option.map_eq_some_iff.1 hj
      exact ih hk
    · rw [stopIdx_visit hv] at hj
      split at hj
      · cases hj; exact ⟨e, rfl, hv⟩
      · cases hk : stopIdx f q s r (rw - ((q * e.2 : Nat) : Int)) with
        | none => rw [hk] at hj; cases hj; exact ⟨e, rfl, hv⟩
        | some k => rw [hk] at hj; cases hj; exact ih hk

theorem stopIdx_eq_none (it : List Entry) (rw : Int) :
    stopIdx f q s it rw = none ↔ ∀ e ∈ it, visits f s e = false := by
  induction it generalizing rw with
  | nil => exact ⟨fun _ _ h => (nomatch h), fun _ => rfl⟩
  | cons e r ih =>
    cases hv : visits f s e
    · rw [stopIdx_skip hv, Option.map_eq_none_iff, ih rw, List.forall_mem_cons]
      exact ⟨fun h => ⟨hv, h⟩, And.right⟩
    · have hne : ¬ ∀ x ∈ e :: r, visits f s x = false :=
        fun h => nomatch hv.symm.trans (h e List.mem_cons_self)
      rw [stopIdx_visit hv]
      split <;> exact ⟨fun h => (nomatch h), fun h => absurd h hne⟩

theorem chooseLoop_eq_stopIdx (it : List Entry) (rw : Int) (last : Option Host) :
    chooseLoop f q s it rw last =
      match stopIdx f q s it rw with
      | some j => it[j]?.map Prod.fst
      | none => last := by
  induction it generalizing rw last with
  | nil => rfl
  | cons e r ih =>
    cases hv : visits f s e
    · rw [chooseLoop_skip hv, stopIdx_skip hv, ih rw last]
      cases stopIdx f q s r rw <;> rfl
    · rw [chooseLoop_visit hv, stopIdx_visit hv]
      split
      · rfl
      · rw [ih _ (some e.1)]
        cases stopIdx f q s r (rw - ((q * e.2 : Nat) : Int)) <;> rfl

theorem totalWeight_cons_skip {e : Entry} {r : List Entry}
    (hv : visits f s e = false) : totalWeight f (e :: r) = totalWeight f r := by
  rcases visits_eq_false.1 hv with h | h
  · simp only [totalWeight, h, Bool.false_eq_true, if_false]
  · have : e.2 = 0 := beq_iff_eq.1 (Bool.and_eq_true_iff.1 h).2
    simp only [totalWeight, this, Nat.zero_add, ite_self]

theorem totalWeight_cons_visit {e : Entry} {r : List Entry}
    (hv : visits f s e = true) : totalWeight f (e :: r) = e.2 + totalWeight f r := by
  simp only [totalWeight, (visits_eq_true.1 hv).1, if_true]

theorem totalWeight_unvisited {es : List Entry} (h : ∀ x ∈ es, visits f s x = false) :
    totalWeight f es = 0 := by
  induction es with
  | nil => rfl
  | cons e r ih =>
    rw [totalWeight_cons_skip (h e List.mem_cons_self)]
    exact ih fun x hx => h x (List.mem_cons_of_mem _ hx)

/-- Where the second pass stops, exactly. `randomWeight` on reaching `e` is `rw` less the weight
visited before. The loop stops at `e` iff `e` is visited, that remainder was still positive after
the last visited entry before `e` (if there is one), and either drops to `<= 0` at `e` or nothing is
visited after `e` (the fall-back `lastEligible`). -/
theorem stopIdx_at (pre : List Entry) (e : Entry) (post : List Entry) (rw : Int) :
    stopIdx f q s (pre ++ e :: post) rw = some pre.length ↔
      visits f s e = true ∧
      (0 < rw - ((q * totalWeight f pre : Nat) : Int) ∨ ∀ x ∈ pre, visits f s x = false) ∧
      (rw - ((q * totalWeight f pre : Nat) : Int) ≤ ((q * e.2 : Nat) : Int) ∨
        ∀ x ∈ post, visits f s x = false) := by
  induction pre generalizing rw with
  | nil =>
    rw [List.nil_append]
    cases hv : visits f s e
    · rw [stopIdx_skip hv]
      exact ⟨fun h => (match Option.map_eq_some_iff.1 h with | ⟨_, _, ha⟩ => nomatch ha), fun h => nomatch h.1⟩
    · rw [stopIdx_visit hv, ← stopIdx_eq_none (q := q) post (rw - ((q * e.2 : Nat) : Int))]
      simp only [totalWeight, Nat.mul_zero, Int.natCast_zero, Int.sub_zero, List.length_nil, true_and]
      split
      · exact ⟨fun _ => ⟨Or.inr fun _ h => (nomatch h), Or.inl (by omega)⟩, fun _ => rfl⟩
      · cases stopIdx f q s post (rw - ((q * e.2 : Nat) : Int)) with
        | none => exact ⟨fun _ => ⟨Or.inr fun _ h => (nomatch h), Or.inr rfl⟩, fun _ => rfl⟩
        | some k => exact ⟨fun h => (nomatch h), fun h => h.2.elim (fun h => by omega) (fun h => (nomatch h))⟩
  | cons e0 pre ih =>
    rw [List.cons_append, List.length_cons]
    cases hv : visits f s e0
    · rw [stopIdx_skip hv, totalWeight_cons_skip hv, List.forall_mem_cons]
      refine (Option.map_inj_right (o' := some pre.length) fun _ _ => Nat.succ.inj).trans ((ih rw).trans ?_)
      simp only [hv, true_and]
    · have hne : ¬ ∀ x ∈ e0 :: pre, visits f s x = false :=
        fun h => nomatch hv.symm.trans (h e0 List.mem_cons_self)
      -- the remainder on reaching `e` is the same whether or not `e0` is counted with the prefix
      rw [stopIdx_visit hv, totalWeight_cons_visit hv, Nat.mul_add,
        Int.natCast_add, ← Int.sub_sub]
      split
      · exact ⟨fun h => (nomatch h), fun ⟨_, h2, _⟩ => h2.elim (fun h => by omega) (fun h => absurd h hne)⟩
      · have hmap : ∀ o : Option Nat, some (o.elim 0 (· + 1)) = some (pre.length + 1) ↔ o = some pre.length := by
          intro o; cases o <;> simp
        rw [hmap, ih]
        refine and_congr_right fun _ => and_congr_left fun _ => ⟨fun h => Or.inl (h.elim id fun hu => ?_),
          fun h => Or.inl (h.elim id fun hu => absurd hu hne)⟩
        rw [totalWeight_unvisited hu]; omega

end SecondPass

theorem totalWeight_zero_of_none (f : Host → Bool) (es : List Entry)
    (h : ∀ e ∈ es, f e.1 = false) : totalWeight f es = 0 :=
  totalWeight_unvisited (s := false) fun e he => visits_eq_false.2 (Or.inl (h e he))

theorem totalWeight_eq_zero_iff (f : Host → Bool) (es : List Entry) :
    totalWeight f es = 0 ↔ ∀ x ∈ es, visits f true x = false := by
  refine ⟨fun h0 x hx => ?_, totalWeight_unvisited⟩
  cases hv : visits f true x with
  | false => rfl
  | true =>
    have := (totalWeight_pos_iff f es).2 ⟨x, hx, visits_skipZero.1 hv⟩
    omega

/-- passing over zero weights only when some positive weight is eligible never empties the candidates -/
theorem forall_unvisited_iff (f : Host → Bool) (es : List Entry) :
    (∀ e ∈ es, visits f (decide (0 < totalWeight f es)) e = false) ↔ ∀ e ∈ es, f e.1 = false := by
  refine ⟨fun h e he => ?_, fun h e he => visits_eq_false.2 (Or.inl (h e he))⟩
  by_cases hT : 0 < totalWeight f es
  · rw [decide_eq_true hT] at h
    exact absurd (totalWeight_unvisited h) (Nat.ne_of_gt hT)
  · rw [decide_eq_false hT] at h
    exact visits_noSkip.symm.trans (h e he)

theorem filterAndChooseHost_eq_idx (f : Host → Bool) (d : Draw) :
    filterAndChooseHost f d = (filterAndChooseIdx f d).bind (fun j => d.it2[j]?.map Prod.fst) := by
  rw [filterAndChooseHost, chooseLoop_eq_stopIdx, filterAndChooseIdx, ← stopIdx]
  cases stopIdx f d.q (decide (0 < totalWeight f d.it1)) d.it2 ((d.p * totalWeight f d.it1 : Nat) : Int) <;> rfl

theorem filterAndChooseHost_some (f : Host → Bool) (es : List Entry) (d : Draw) (hv : d.Valid es) (h : Host)
    (hc : filterAndChooseHost f d = some h) :
    ∃ w, (h, w) ∈ es ∧ f h = true ∧ (0 < totalWeight f es → 0 < w) := by
  rw [filterAndChooseHost_eq_idx, filterAndChooseIdx, ← stopIdx, totalWeight_perm f hv.1] at hc
  obtain ⟨j, hj, hc⟩ := Option.bind_eq_some_iff.1 hc
  obtain ⟨e, he, hvis⟩ := stopIdx_some hj
  rw [he] at hc; cases hc
  refine ⟨e.2, hv.2.1.mem_iff.1 (List.mem_of_getElem? he), (visits_eq_true.1 hvis).1, fun hT => ?_⟩
  rw [decide_eq_true hT] at hvis
  exact (visits_skipZero.1 hvis).2

theorem filterAndChooseHost_none_iff (f : Host → Bool) (es : List Entry) (d : Draw) (hv : d.Valid es) :
    filterAndChooseHost f d = none ↔ ∀ e ∈ es, f e.1 = false := by
  have hstop : filterAndChooseHost f d = none ↔ filterAndChooseIdx f d = none := by
    rw [filterAndChooseHost_eq_idx]
    cases hj : filterAndChooseIdx f d with
    | none => simp
    | some j =>
      obtain ⟨e, he, _⟩ := stopIdx_some hj
      simp [he]
  rw [hstop, filterAndChooseIdx, ← stopIdx, stopIdx_eq_none, totalWeight_perm f hv.1, ← forall_unvisited_iff]
  exact ⟨fun h e he => h e (hv.2.1.mem_iff.2 he), fun h e he => h e (hv.2.1.mem_iff.1 he)⟩

/-- The interval law for one call. `Draw.Valid` puts `r·T` at or below the whole eligible weight, so
when nothing is visited after `e` the weight up to and including `e` is the whole of it: the
fall-back adds no case. -/
theorem filterAndChooseIdx_at (f : Host → Bool) (es : List Entry) (d : Draw) (hv : d.Valid es)
    (pre post : List Entry) (e : Entry) (hit : d.it2 = pre ++ e :: post) :
    filterAndChooseIdx f d = some pre.length ↔
      visits f (decide (0 < totalWeight f es)) e = true ∧
        d.p * totalWeight f es ≤ d.q * (totalWeight f pre + e.2) ∧
        (d.q * totalWeight f pre < d.p * totalWeight f es ∨
          ∀ x ∈ pre, visits f (decide (0 < totalWeight f es)) x = false) := by
  obtain ⟨h1, h2, hpq⟩ := hv
  rw [filterAndChooseIdx, ← stopIdx, totalWeight_perm f h1, hit, stopIdx_at, Int.sub_pos, Int.ofNat_lt,
    Int.sub_right_le_iff_le_add, ← Int.natCast_add, Int.ofNat_le, ← Nat.mul_add, Nat.add_comm e.2]
  have hall : (∀ x ∈ post, visits f (decide (0 < totalWeight f es)) x = false) →
      visits f (decide (0 < totalWeight f es)) e = true →
      d.p * totalWeight f es ≤ d.q * (totalWeight f pre + e.2) := by
    intro hpost he
    have : totalWeight f es = totalWeight f pre + e.2 := by
      rw [← totalWeight_perm f h2, hit, totalWeight_append, totalWeight_cons_visit he,
        totalWeight_unvisited hpost]
      rfl
    rw [← this]
    exact Nat.mul_le_mul_right _ (Nat.le_of_lt hpq)
  exact ⟨fun ⟨he, h3, h4⟩ => ⟨he, h4.elim id (fun h => hall h he), h3⟩, fun ⟨he, h3, h4⟩ => ⟨he, h4, Or.inl h3⟩⟩

theorem topScheme_cons (s0 : Bytes) (rest : List Bytes) (es : List Entry) :
    Spec.topScheme (s0 :: rest) es =
      if es.any (Spec.hasScheme s0) then some s0 else Spec.topScheme rest es := by
  simp only [Spec.topScheme, List.find?_cons]
  cases es.any (Spec.hasScheme s0) <;> rfl

theorem filterScheme_none_iff (es : List Entry) (d : Draw) (hv : d.Valid es) (s : Bytes) :
    filterAndChooseHost (fun h => h.scheme == s) d = none ↔ es.any (Spec.hasScheme s) = false := by
  rw [filterAndChooseHost_none_iff _ es d hv, List.any_eq_false]
  exact forall_congr' fun e => forall_congr' fun _ => Bool.eq_false_iff

theorem chooseHostFrom_eq (es : List Entry) (env : Nat → Draw) (hv : ∀ k, (env k).Valid es)
    (prio : List Bytes) (k : Nat) : ∃ j, chooseHostFrom env prio k =
      match Spec.topScheme prio es with
      | none => none
      | some s => filterAndChooseHost (fun h => h.scheme == s) (env j) := by
  induction prio generalizing k with
  | nil => exact ⟨k, rfl⟩
  | cons s0 rest ih =>
    rw [topScheme_cons, chooseHostFrom]
    cases hany : es.any (Spec.hasScheme s0) with
    | false =>
      rw [(filterScheme_none_iff es _ (hv k) s0).2 hany]
      exact ih (k + 1)
    | true =>
      refine ⟨k, ?_⟩
      rw [if_pos rfl]
      cases hc : filterAndChooseHost (fun h => h.scheme == s0) (env k) with
      | some h => exact hc.symm
      | none => exact nomatch hany.symm.trans ((filterScheme_none_iff es _ (hv k) s0).1 hc)

theorem chooseHost_eligible (es : List Entry) (env : Nat → Draw) (hv : ∀ k, (env k).Valid es)
    (prio : List Bytes) :
    ∃ f j, chooseHost prio env = filterAndChooseHost f (env j) ∧
      Spec.eligible prio es = es.filter (fun e => f e.1) := by
  cases prio with
  | nil => exact ⟨fun _ => true, 0, rfl, (List.filter_eq_self.2 fun _ _ => rfl).symm⟩
  | cons s0 rest =>
    obtain ⟨j, hj⟩ := chooseHostFrom_eq es env hv (s0 :: rest) 0
    simp only [chooseHost, Spec.eligible, List.length_cons, Nat.succ_ne_zero, reduceCtorEq, if_false]
    rw [hj]
    cases Spec.topScheme (s0 :: rest) es with
    | none =>
      exact ⟨fun _ => false, 0, ((filterAndChooseHost_none_iff _ es _ (hv 0)).2 fun _ _ => rfl).symm, (List.filter_eq_nil_iff.2 fun _ _ => Bool.false_ne_true).symm⟩
    | some s => exact ⟨_, j, rfl, rfl⟩

theorem getElem?_split_unique (pre post : List Entry) (h : Host) (w : Nat)
    (huniq : ∀ e ∈ pre ++ post, e.1 ≠ h) (j : Nat) :
    ((pre ++ (h, w) :: post)[j]?).map Prod.fst = some h ↔ j = pre.length := by
  induction pre generalizing j with
  | nil =>
    cases j with
    | zero => exact ⟨fun _ => rfl, fun _ => rfl⟩
    | succ k =>
      refine ⟨fun hj => ?_, fun e => nomatch e⟩
      obtain ⟨e, he, hfst⟩ := Option.map_eq_some_iff.1 hj
      have he : post[k]? = some e := he
      exact absurd hfst (huniq e (List.mem_of_getElem? he))
  | cons e0 pre ih =>
    cases j with
    | zero => exact ⟨fun hj => absurd (Option.some.inj hj) (huniq e0 List.mem_cons_self), fun e => nomatch e⟩
    | succ k => exact (ih (fun e he => huniq e (List.mem_cons_of_mem _ he)) k).trans Nat.succ_inj.symm

end Restli.D2
