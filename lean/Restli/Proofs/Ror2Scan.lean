import Restli.Model.Ror2Tree
import Restli.Proofs.Bytes
/-! What the scanning functions of the ROR2 cursor reader (`scanPrim`, `scanName`, `skipScan`, `atMap`,
`atArray`, and the readers built directly on them) do on the rendering of a raw-token tree. -/
namespace Restli.Codec
open Json (JVal)

theorem isDelim_iff (c : UInt8) : isDelim c = true ↔ c = 44 ∨ c = 41 := by simp [isDelim]

theorem listPrefix_eq : Gen.listPrefix = [76, 105, 115, 116, 40] := rfl

theorem adv_nonstart (r1 r2 : Bytes) (m : List Bytes) :
    ({ rest := r1, start := false, missing := m } : RS).adv r2 = { rest := r2, start := false, missing := m } :=
  rfl

/-- any step forward leaves position 0 -/
theorem adv_lt {r1 r2 : Bytes} {m : List Bytes} (st : Bool) (h : r2.length < r1.length) :
    ({ rest := r1, start := st, missing := m } : RS).adv r2 = { rest := r2, start := false, missing := m } := by
  have : (r2.length == r1.length) = false := beq_eq_false_iff_ne.2 (Nat.ne_of_lt h)
  simp only [RS.adv, this, Bool.and_false]

/-- Induction over a well-formed raw-token tree together with its member and element lists: the
recursion of `renderRaw` and `needT`. -/
theorem rawWF_induct {P : JVal → Prop} {PK : List (Bytes × JVal) → Prop} {PI : List JVal → Prop}
    (str : ∀ tok, tokClean tok → P (.str tok))
    (obj : ∀ kvs, RawWFKvs kvs → PK kvs → P (.obj kvs)) (arr : ∀ xs, RawWFItems xs → PI xs → P (.arr xs))
    (knil : PK [])
    (kcons : ∀ k v rest, keyClean k → RawWF v → RawWFKvs rest → P v → PK rest → PK ((k, v) :: rest))
    (inil : PI []) (icons : ∀ v rest, RawWF v → RawWFItems rest → P v → PI rest → PI (v :: rest)) :
    (∀ t, RawWF t → P t) ∧ (∀ kvs, RawWFKvs kvs → PK kvs) ∧ (∀ xs, RawWFItems xs → PI xs) := by
  have tree : ∀ t, RawWF t → P t :=
    JVal.rec (motive_2 := fun xs => RawWFItems xs → PI xs) (motive_3 := fun kvs => RawWFKvs kvs → PK kvs)
      (motive_4 := fun e => RawWF e.2 → P e.2)
      (fun h => h.elim) (fun _ h => h.elim) (fun _ h => h.elim) str (fun xs ih h => arr xs h (ih h))
      (fun kvs ih h => obj kvs h (ih h)) (fun _ => inil)
      (fun v rest ihv ihr h => icons v rest h.1 h.2 (ihv h.1) (ihr h.2))
      (fun _ => knil) (fun e rest ihe ihr h => kcons e.1 e.2 rest h.1 h.2.1 h.2.2 (ihe h.2.1) (ihr h.2.2))
      (fun _ _ ih => ih)
  refine ⟨tree, fun kvs => ?_, fun xs => ?_⟩
  · induction kvs with
    | nil => exact fun _ => knil
    | cons e rest ih => exact fun h => kcons e.1 e.2 rest h.1 h.2.1 h.2.2 (tree e.2 h.2.1) (ih h.2.2)
  · induction xs with
    | nil => exact fun _ => inil
    | cons v rest ih => exact fun h => icons v rest h.1 h.2 (tree v h.1) (ih h.2)

theorem renderRaw_obj_append (kvs : List (Bytes × JVal)) (tail : Bytes) :
    renderRaw (.obj kvs) ++ tail = 40 :: (renderRawKvs kvs ++ 41 :: tail) := by
  simp only [renderRaw, List.cons_append, List.append_assoc, List.nil_append]

theorem renderRaw_arr_append (xs : List JVal) (tail : Bytes) :
    renderRaw (.arr xs) ++ tail = Gen.listPrefix ++ (renderRawItems xs ++ 41 :: tail) := by
  simp only [renderRaw, List.append_assoc, List.cons_append, List.nil_append]

/-- the first byte of a rendered value is never ')' -/
theorem renderRaw_head (v : JVal) (hw : RawWF v) : ∃ c cs, renderRaw v = c :: cs ∧ c ≠ 41 := by
  cases v with
  | str tok =>
    cases tok with
    | nil => exact absurd rfl hw.1
    | cons c cs => exact ⟨c, cs, rfl, (hw.2 c (List.mem_cons_self ..)).2.1⟩
  | obj kvs => exact ⟨40, renderRawKvs kvs ++ [41], rfl, by decide⟩
  | arr xs => exact ⟨76, [105, 115, 116, 40] ++ (renderRawItems xs ++ [41]), rfl, by decide⟩
  | null => exact hw.elim
  | bool _ => exact hw.elim
  | num _ => exact hw.elim

theorem renderRawItems_head {v : JVal} {more : List JVal} (hw : RawWFItems (v :: more)) (tail : Bytes) :
    ∃ c cs, renderRawItems (v :: more) ++ tail = c :: cs ∧ c ≠ 41 := by
  obtain ⟨c, cs, hc, hne41⟩ := renderRaw_head v hw.1
  cases more with
  | nil => exact ⟨c, cs ++ tail, by simp [renderRawItems, hc], hne41⟩
  | cons v2 more' => exact ⟨c, cs ++ 44 :: renderRawItems (v2 :: more') ++ tail, by simp [renderRawItems, hc], hne41⟩

theorem scanPrim_append (tok : Bytes) (d : UInt8) (rest : Bytes)
    (h : ∀ c ∈ tok, c ≠ 44 ∧ c ≠ 41) (hd : isDelim d = true) :
    scanPrim (tok ++ d :: rest) = (tok, d :: rest) := by
  induction tok with
  | nil => simp [scanPrim, hd]
  | cons c cs ih =>
    have hc := h c (by simp)
    have : isDelim c = false := by simp [isDelim, hc.1, hc.2]
    simp [scanPrim, this, ih (fun x hx => h x (by simp [hx]))]

theorem hasBad_false_of_clean (t : Bytes) (h : ∀ c ∈ t, c ≠ 40 ∧ c ≠ 41 ∧ c ≠ 44) : hasBad t = false := by
  simp only [hasBad, List.any_eq_false]
  intro c hc
  have := h c hc
  simp [this.1, this.2.1, this.2.2]

/-- what must follow a primitive token for a primitive read to return exactly it: at position 0
the read takes the whole input, elsewhere it runs to the next delimiter, which must exist -/
def TokEnds : Bool → Bytes → Prop
  | true, tail => tail = []
  | false, tail => ∃ d rest, tail = d :: rest ∧ isDelim d = true

theorem readPrimTok_tok {tok : Bytes} (hc : tokClean tok) {st : Bool} {tail : Bytes} (he : TokEnds st tail)
    (m : List Bytes) :
    readPrimTok { rest := tok ++ tail, start := st, missing := m } =
      .ok tok { rest := tail, start := false, missing := m } := by
  unfold readPrimTok
  cases st with
  | true =>
    subst he
    have hl : ([] : Bytes).length < (tok ++ []).length := by
      rw [List.append_nil]; exact List.length_pos_iff.2 hc.1
    simp only [↓reduceIte, List.append_nil, hasBad_false_of_clean tok hc.2, Bool.false_eq_true]
    rw [← List.append_nil tok, adv_lt true hl, List.append_nil]
  | false =>
    obtain ⟨d, rest, rfl, hd⟩ := he
    simp only [Bool.false_eq_true, ↓reduceIte]
    rw [scanPrim_append tok d rest (fun c h => ⟨(hc.2 c h).2.2, (hc.2 c h).2.1⟩) hd]
    simp only [List.isEmpty_cons, Bool.false_eq_true, ↓reduceIte, hasBad_false_of_clean tok hc.2, adv_nonstart]

/-- the token before the first delimiter contains a '(' that stands before any delimiter -/
theorem hasBad_scanPrim (pre post : Bytes) (hpre : ∀ c ∈ pre, isDelim c = false) :
    hasBad (scanPrim (pre ++ 40 :: post)).1 = true := by
  induction pre with
  | nil => simp [scanPrim, isDelim, hasBad]
  | cons p ps ih =>
    have hp : isDelim p = false := hpre p (List.mem_cons_self ..)
    simp only [List.cons_append, scanPrim, hp, Bool.false_eq_true, ↓reduceIte, hasBad, List.any_cons]
    exact Bool.or_eq_true_iff.2 (Or.inr (ih fun c hc => hpre c (List.mem_cons_of_mem _ hc)))

/-- a primitive read that meets a '(' before any delimiter (an object, or the '(' of `List(`) is
a syntax error, at position 0 or elsewhere -/
theorem readPrimTok_paren (pre : Bytes) {post : Bytes} (hpre : ∀ c ∈ pre, isDelim c = false) {st : Bool}
    {m : List Bytes} :
    readPrimTok { rest := pre ++ 40 :: post, start := st, missing := m } = .err .syntax := by
  unfold readPrimTok
  cases st with
  | true =>
    have : hasBad (pre ++ 40 :: post) = true := by simp [hasBad]
    simp only [↓reduceIte, this]
  | false =>
    have hb := hasBad_scanPrim pre post hpre
    simp only [Bool.false_eq_true, ↓reduceIte]
    generalize scanPrim (pre ++ 40 :: post) = tr at hb
    obtain ⟨t, r⟩ := tr
    simp only [show hasBad t = true from hb, ↓reduceIte, ite_self]

theorem scanName_key (k tail : Bytes) (hk : ∀ c ∈ k, c ≠ 40 ∧ c ≠ 41 ∧ c ≠ 44 ∧ c ≠ 58) :
    scanName (k ++ 58 :: tail) = some (k, tail) := by
  induction k with
  | nil => simp [scanName]
  | cons c cs ih =>
    have hc := hk c (by simp)
    have h1 : (c == 58) = false := by simp [hc.2.2.2]
    have h2 : (c == 44) = false := by simp [hc.2.2.1]
    have h3 : (c == 41) = false := by simp [hc.2.1]
    simp [scanName, h1, h2, h3, ih (fun x hx => hk x (by simp [hx]))]

theorem readFieldName_key (k tail : Bytes) (hk : keyClean k) :
    readFieldName (k ++ 58 :: tail) = .name k tail := by
  obtain ⟨hne, hcl⟩ := hk
  cases k with
  | nil => exact absurd rfl hne
  | cons c cs =>
    have hc := hcl c (by simp)
    have h1 : (c == 41) = false := by simp [hc.2.1]
    have := scanName_key (c :: cs) tail hcl
    simp only [List.cons_append] at this
    simp [readFieldName, h1, this]

theorem readFieldName_close (tail : Bytes) : readFieldName (41 :: tail) = .close := by
  simp [readFieldName]

theorem atMap_tok {tok : Bytes} (h : tokClean tok) {tail : Bytes} {st : Bool} {m : List Bytes} :
    atMap { rest := tok ++ tail, start := st, missing := m } = false := by
  cases tok with
  | nil => exact absurd rfl h.1
  | cons c cs => simp [atMap, (h.2 c (List.mem_cons_self ..)).1]

/-- `List(` cannot begin a clean token together with what follows it: its '(' would lie in the
token, or the byte that ends the token would be one of `List(` -/
theorem atArray_tok {tok : Bytes} (h : tokClean tok) {st : Bool} {tail : Bytes} (he : TokEnds st tail)
    {m : List Bytes} : atArray { rest := tok ++ tail, start := st, missing := m } = false := by
  have h40 : (40 : UInt8) ∉ tok := fun hm => (h.2 40 hm).1 rfl
  have hno : ¬ Gen.listPrefix <+: tok ++ tail := by
    rintro ⟨r, hr⟩
    rcases List.append_eq_append_iff.1 hr with ⟨a, rfl, _⟩ | ⟨b, hb, htail⟩
    · exact h40 (by simp [listPrefix_eq])
    · cases b with
      | nil =>
        rw [List.append_nil] at hb
        exact h40 (by rw [← hb, listPrefix_eq]; simp)
      | cons d b' =>
        have hd : d ∈ Gen.listPrefix := by rw [hb]; simp
        cases st with
        | true => subst he; cases htail
        | false =>
          obtain ⟨d', rest, rfl, hd'⟩ := he
          cases htail
          exact absurd hd' ((by decide : ∀ c ∈ Gen.listPrefix, isDelim c ≠ true) d hd)
  have : Gen.listPrefix.isPrefixOf (tok ++ tail) = false :=
    Bool.eq_false_iff.2 (mt List.isPrefixOf_iff_prefix.1 hno)
  simp only [atArray, this, Bool.false_and]

theorem atMap_obj (body : Bytes) (st : Bool) (m : List Bytes) :
    atMap { rest := 40 :: body, start := st, missing := m } = true := by simp [atMap]

theorem atMap_arr {body : Bytes} {st : Bool} {m : List Bytes} :
    atMap { rest := Gen.listPrefix ++ body, start := st, missing := m } = false := by
  simp [atMap, listPrefix_eq]

theorem atArray_obj {body : Bytes} {st : Bool} {m : List Bytes} :
    atArray { rest := 40 :: body, start := st, missing := m } = false := by
  simp [atArray, listPrefix_eq, List.isPrefixOf]

theorem atArray_arr (body : Bytes) (hb : body ≠ []) (st : Bool) (m : List Bytes) :
    atArray { rest := Gen.listPrefix ++ body, start := st, missing := m } = true := by
  cases body with
  | nil => exact absurd rfl hb
  | cons x xs => simp [atArray, listPrefix_eq, List.isPrefixOf]

theorem skipScan_plain (c : UInt8) (cs : Bytes) (b : Bool) (n : Nat)
    (h : c ≠ 40 ∧ c ≠ 41 ∧ c ≠ 44) : skipScan b n (c :: cs) = skipScan b n cs := by
  simp [skipScan, h.1, h.2.1, h.2.2]

theorem skipScan_open (n : Nat) (cs : Bytes) : skipScan true n (40 :: cs) = skipScan true (n + 1) cs := rfl

theorem skipScan_close (n : Nat) (cs : Bytes) : skipScan true (n + 1) (41 :: cs) = skipScan true n cs := rfl

theorem skipScan_comma (n : Nat) (cs : Bytes) :
    skipScan true (n + 1) (44 :: cs) = skipScan true (n + 1) cs := rfl

theorem skipScan_listPrefix (n : Nat) (cs : Bytes) :
    skipScan true n (Gen.listPrefix ++ cs) = skipScan true (n + 1) cs := rfl

theorem skipScan_clean_append (tok : Bytes) (tail : Bytes) (b : Bool) (n : Nat)
    (h : ∀ c ∈ tok, c ≠ 40 ∧ c ≠ 41 ∧ c ≠ 44) : skipScan b n (tok ++ tail) = skipScan b n tail := by
  induction tok with
  | nil => rfl
  | cons c cs ih =>
    rw [List.cons_append, skipScan_plain c _ b n (h c (by simp))]
    exact ih (fun x hx => h x (by simp [hx]))

theorem keyClean_tokClean {t : Bytes} (h : keyClean t) : tokClean t :=
  ⟨h.1, fun c hc => ⟨(h.2 c hc).1, (h.2 c hc).2.1, (h.2 c hc).2.2.1⟩⟩

theorem skipScan_key (k : Bytes) (hk : keyClean k) (tail : Bytes) (n : Nat) :
    skipScan true n (k ++ 58 :: tail) = skipScan true n tail := by
  rw [skipScan_clean_append k _ true n (keyClean_tokClean hk).2]
  exact skipScan_plain 58 _ true n (by decide)

/-- inside a map or array, the scan runs over a whole rendered value — and, one level down, over the
members of an object and the elements of an array — and is back at the nesting depth it started from -/
theorem skipScan_value :
    (∀ t, RawWF t → ∀ n tail, skipScan true n (renderRaw t ++ tail) = skipScan true n tail) ∧
    (∀ kvs, RawWFKvs kvs → ∀ n tail,
      skipScan true (n + 1) (renderRawKvs kvs ++ tail) = skipScan true (n + 1) tail) ∧
    (∀ xs, RawWFItems xs → ∀ n tail,
      skipScan true (n + 1) (renderRawItems xs ++ tail) = skipScan true (n + 1) tail) := by
  refine rawWF_induct ?_ ?_ ?_ ?_ ?_ ?_ ?_
  · exact fun tok hw n tail => skipScan_clean_append tok tail true n hw.2
  · intro kvs _ ih n tail
    rw [renderRaw_obj_append, skipScan_open, ih n (41 :: tail), skipScan_close]
  · intro xs _ ih n tail
    rw [renderRaw_arr_append, skipScan_listPrefix, ih n (41 :: tail), skipScan_close]
  · exact fun _ _ => rfl
  · intro k v rest hk _ _ ihv ihr n tail
    cases rest with
    | nil =>
      simp only [renderRawKvs, List.append_assoc, List.cons_append]
      rw [skipScan_key k hk, ihv]
    | cons kv2 more =>
      simp only [renderRawKvs, List.append_assoc, List.cons_append]
      rw [skipScan_key k hk, ihv, skipScan_comma]
      exact ihr n tail
  · exact fun _ _ => rfl
  · intro v rest _ _ ihv ihr n tail
    cases rest with
    | nil => exact ihv (n + 1) tail
    | cons v2 more =>
      simp only [renderRawItems, List.append_assoc, List.cons_append]
      rw [ihv, skipScan_comma]
      exact ihr n tail

theorem skipScan_over : (t : JVal) → RawWF t → ∀ n tail,
    skipScan true (n + 1) (renderRaw t ++ tail) = skipScan true (n + 1) tail :=
  fun t hw n tail => skipScan_value.1 t hw (n + 1) tail

/-- `Skip` consumes exactly one rendered value -/
theorem skip_rendered {t : JVal} (hw : RawWF t) {d : UInt8} (hd : isDelim d = true) {rest : Bytes}
    {m : List Bytes} :
    skip { rest := renderRaw t ++ d :: rest, start := false, missing := m } =
      .ok () { rest := d :: rest, start := false, missing := m } := by
  have stop : ∀ b, skipScan b 0 (d :: rest) = some (d :: rest) := by
    intro b; rcases (isDelim_iff d).1 hd with rfl | rfl <;> simp [skipScan]
  unfold skip
  simp only [Bool.false_eq_true, ↓reduceIte]
  -- in a container the scan counts parentheses; a token has none, so the mode does not matter
  cases t with
  | str tok =>
    rw [renderRaw, skipScan_clean_append tok _ _ 0 hw.2, stop]
    rfl
  | obj kvs =>
    rw [show atMap { rest := renderRaw (.obj kvs) ++ d :: rest, start := false, missing := m } = true from rfl,
      Bool.or_true, skipScan_value.1 _ hw, stop]
    rfl
  | arr xs =>
    have : atArray { rest := renderRaw (.arr xs) ++ d :: rest, start := false, missing := m } = true := by
      rw [renderRaw_arr_append]; exact atArray_arr _ (by simp) _ _
    rw [this, Bool.true_or, skipScan_value.1 _ hw, stop]
    rfl
  | null => exact hw.elim
  | bool _ => exact hw.elim
  | num _ => exact hw.elim

end Restli.Codec
