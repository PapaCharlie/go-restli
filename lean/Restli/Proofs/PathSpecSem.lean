import Restli.Proofs.PathSpecPanic
/-! `NewPathSpec` + `genericMatches` against the declarative reading of an exclusion spec: a path
is excluded iff some directive matches a prefix of it segment by segment, `*` in a directive
standing for any one segment — where, at each step, one leading `$set` / `$delete` segment of
the remaining path is passed over first (partial-update documents). -/
namespace Restli.Codec

/-- **specification**: one directive (split into segments) against a path -/
def dirMatches : List Bytes → List Bytes → Bool
  | [], _ => true
  | s :: ds, path =>
    match skipOp path with
    | none => false
    | some (x, tl) => (s == Gen.wildCard || s == x) && (ds.isEmpty || dirMatches ds tl)

theorem matchesB_nil (cs : List (Bytes × PathSpec)) : (PathSpec.node cs).matchesB [] = false := by
  simp only [PathSpec.matchesB, gmatches]
  split <;> rfl

theorem matchesB_node (cs : List (Bytes × PathSpec)) (path : List Bytes) :
    (PathSpec.node cs).matchesB path = true ↔
      ∃ x tl, skipOp path = some (x, tl) ∧ (stepRes cs Gen.wildCard tl = .yes ∨ stepRes cs x tl = .yes) := by
  cases path with
  | nil => simp [matchesB_nil, skipOp]
  | cons p0 ps =>
    rw [PathSpec.matchesB, beq_iff_eq, gmatches_cons]
    cases cs with
    | nil => simp [stepRes]
    | cons c cr =>
      simp only [List.isEmpty_cons, Bool.false_eq_true, ↓reduceIte]
      cases skipOp (p0 :: ps) with
      | none => simp
      | some xt =>
        simp only [Option.some.injEq]
        rw [or_yes_iff (stepRes_ne_panic (fun _ => gmatches_ne_panic _ _) _)]
        exact ⟨fun h => ⟨_, _, rfl, h⟩, fun ⟨_, _, e, h⟩ => e ▸ h⟩

/-- the empty path is matched by no node (`genericMatches` would panic on it), so a non-empty child
answers for the rest of the path what it answers as a trie -/
theorem childRes_yes (p : PathSpec) (tl : List Bytes) (hne : p.children.isEmpty = false) :
    childRes p.children tl = .yes ↔ p.matchesB tl = true := by
  obtain ⟨sub⟩ := p
  simp only [PathSpec.children] at hne ⊢
  unfold childRes
  simp only [hne, Bool.false_eq_true, ↓reduceIte]
  cases tl with
  | nil => simp [matchesB_nil]
  | cons _ _ => simp [PathSpec.matchesB]

theorem dirMatches_cons (seg : Bytes) (ds path : List Bytes) :
    dirMatches (seg :: ds) path = true ↔
      ∃ x tl, skipOp path = some (x, tl) ∧ ((Gen.wildCard == seg) = true ∨ (x == seg) = true) ∧
        dirMatches ds tl = true := by
  have hds : ∀ tl, (ds.isEmpty || dirMatches ds tl) = dirMatches ds tl := by
    intro tl; cases ds <;> simp [dirMatches]
  rw [dirMatches]
  cases skipOp path with
  | none => simp
  | some xt =>
    simp only [hds, Bool.and_eq_true, Bool.or_eq_true, BEq.comm (a := seg), Option.some.injEq]
    exact ⟨fun h => ⟨_, _, rfl, h⟩, fun ⟨_, _, e, h⟩ => e ▸ h⟩

/-- the children `cs'` are `cs` with the child under `seg` replaced by (or, if absent, extended
with) `new` -/
def Replaced (cs cs' : List (Bytes × PathSpec)) (seg : Bytes) (new : PathSpec) : Prop :=
  ∀ s, List.lookup s cs' = if s == seg then some new else List.lookup s cs

section
variable {cs cs' : List (Bytes × PathSpec)} {seg : Bytes}

theorem replaced_self {sub : PathSpec} (h : List.lookup seg cs = some sub) : Replaced cs cs seg sub := by
  intro s
  cases hs : s == seg with
  | false => rfl
  | true => rw [eq_of_beq hs]; exact h

theorem replaced_append (new : PathSpec)
    (h : List.lookup seg cs = none) : Replaced cs (cs ++ [(seg, new)]) seg new := by
  intro s
  rw [List.lookup_append]
  cases hs : s == seg with
  | false => simp [List.lookup, hs]
  | true => rw [eq_of_beq hs, h]; simp [List.lookup]

theorem replaced_update {old : PathSpec} (new : PathSpec) (h : List.lookup seg cs = some old) :
    Replaced cs (cs.map (fun e => if e.1 == seg then (seg, new) else e)) seg new := by
  intro s
  rw [lookup_update, h]
  rfl

/-- one insertion step, semantically: if the new child under `seg` answers what the old one did
or what the rest `ds` of the directive matches, the trie excludes what it did or what the
directive matches (and is not empty: it has a child under `seg`) -/
theorem matchesB_replaced {new : PathSpec} {ds : List Bytes} (hr : Replaced cs cs' seg new)
    (hnew : ∀ tl, childRes new.children tl = .yes ↔ stepRes cs seg tl = .yes ∨ dirMatches ds tl = true) :
    cs'.isEmpty = false ∧ ∀ path,
      ((PathSpec.node cs').matchesB path = true ↔
        (PathSpec.node cs).matchesB path = true ∨ dirMatches (seg :: ds) path = true) := by
  refine ⟨?_, fun path => ?_⟩
  · have := hr seg
    rw [beq_self_eq_true, if_pos rfl] at this
    cases cs' with
    | nil => cases this
    | cons _ _ => rfl
  have step : ∀ s tl, stepRes cs' s tl = .yes ↔
      stepRes cs s tl = .yes ∨ ((s == seg) = true ∧ dirMatches ds tl = true) := by
    intro s tl
    obtain ⟨newcs⟩ := new
    rw [stepRes, hr s]
    cases hs : s == seg with
    | false => simp [stepRes]
    | true => rw [eq_of_beq hs]; simpa [PathSpec.children] using hnew tl
  -- distributed over `∃` and `∨`, both sides are the same four disjuncts
  simp only [matchesB_node, dirMatches_cons, step, or_and_right, and_or_left, exists_or]
  exact or_or_or_comm

end

/-- **inserting a directive adds exactly the paths it matches** (and never yields an empty node) -/
theorem insert_sem : ∀ (d : List Bytes), d ≠ [] → ∀ (cs : List (Bytes × PathSpec)),
    (PathSpec.insert d (.node cs)).children.isEmpty = false ∧ ∀ path,
      ((PathSpec.insert d (.node cs)).matchesB path = true ↔
        (PathSpec.node cs).matchesB path = true ∨ dirMatches d path = true) := by
  intro d
  induction d with
  | nil => intro h; exact absurd rfl h
  | cons seg rest ih =>
    intro _ cs
    cases rest with
    | nil =>
      -- the child under `seg` becomes (or is) a leaf, which answers yes like the empty directive
      have hnew : ∀ tl, childRes [] tl = .yes ↔ stepRes cs seg tl = .yes ∨ dirMatches [] tl = true :=
        fun tl => ⟨fun _ => .inr rfl, fun _ => rfl⟩
      simp only [PathSpec.insert, lookupSpec0]
      cases hl : List.lookup seg cs with
      | none => exact matchesB_replaced (replaced_append _ hl) hnew
      | some sub =>
        obtain ⟨scs⟩ := sub
        cases scs with
        | nil => exact matchesB_replaced (replaced_self hl) hnew
        | cons c0 cr => exact matchesB_replaced (replaced_update _ hl) hnew
    | cons s2 rest =>
      have ih := ih (List.cons_ne_nil s2 rest)
      -- the child under `seg` after inserting the remainder below a node with children `scs`
      have child_new : ∀ (scs : List (Bytes × PathSpec)) (tl : List Bytes),
          childRes (PathSpec.insert (s2 :: rest) (.node scs)).children tl = .yes ↔
            (PathSpec.node scs).matchesB tl = true ∨ dirMatches (s2 :: rest) tl = true :=
        fun scs tl => (childRes_yes _ tl (ih scs).1).trans ((ih scs).2 tl)
      simp only [PathSpec.insert, lookupSpec0]
      cases hl : List.lookup seg cs with
      | none =>
        refine matchesB_replaced (replaced_append _ hl) (fun tl => ?_)
        rw [child_new [] tl, stepRes, hl]
        simp [matchesB_empty]
      | some sub =>
        obtain ⟨scs⟩ := sub
        cases scs with
        | nil =>
          -- a shorter directive is already there: nothing changes, and it answers yes
          refine matchesB_replaced (replaced_self hl) (fun tl => ⟨fun _ => .inl ?_, fun _ => rfl⟩)
          rw [stepRes, hl]; rfl
        | cons c0 cr =>
          refine matchesB_replaced (replaced_update _ hl) (fun tl => ?_)
          rw [child_new (c0 :: cr) tl, stepRes, hl]
          exact or_congr_left (childRes_yes (.node (c0 :: cr)) tl rfl).symm

theorem splitSlash_go_ne_nil (s cur : Bytes) : splitSlash.go s cur ≠ [] := by
  induction s generalizing cur with
  | nil => simp [splitSlash.go]
  | cons c cs ih =>
    simp only [splitSlash.go]
    split
    · simp
    · exact ih _

theorem splitSlash_ne_nil (s : Bytes) : splitSlash s ≠ [] := by
  unfold splitSlash
  exact splitSlash_go_ne_nil _ _

theorem fold_insert_sem (dirs : List Bytes) (path : List Bytes) :
    ∀ t : PathSpec, (dirs.foldl (fun p d => PathSpec.insert (splitSlash d) p) t).matchesB path = true ↔
      t.matchesB path = true ∨ ∃ d ∈ dirs, dirMatches (splitSlash d) path = true := by
  induction dirs with
  | nil => intro t; simp
  | cons d rest ih =>
    intro t
    obtain ⟨cs⟩ := t
    simp only [List.foldl_cons]
    rw [ih, (insert_sem (splitSlash d) (splitSlash_ne_nil d) cs).2 path]
    simp only [List.mem_cons, exists_eq_or_imp, or_assoc]

/-- a directive matches a prefix of the path segment by segment, `*` matching any segment -/
def prefixMatches : List Bytes → List Bytes → Bool
  | [], _ => true
  | _ :: _, [] => false
  | s :: ds, x :: xs => (s == Gen.wildCard || s == x) && prefixMatches ds xs

theorem dirMatches_plain : ∀ (d path : List Bytes), (∀ x ∈ path, isOp x = false) →
    dirMatches d path = prefixMatches d path := by
  intro d path hno
  fun_induction prefixMatches d path with
  | case1 => rfl
  | case2 => rfl
  | case3 s ds x xs ih =>
    have hskip : skipOp (x :: xs) = some (x, xs) := by
      cases xs <;> simp [skipOp, hno x List.mem_cons_self]
    rw [dirMatches, hskip]
    simp only [ih (fun y hy => hno y (List.mem_cons_of_mem _ hy))]
    cases ds <;> rfl

end Restli.Codec
