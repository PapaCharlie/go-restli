import Restli.Model.ErrorFlow
/-! Error flow (C08): first the definitions the statements of `Props/C08.lean` use about the regenerated
constants (`failure`, `protocolDefault`, `TiedErr`), then that both generations meet `TiedErr` and what
`receiveImpl` returns for a successful call. -/
namespace Restli.ErrorFlow
open Restli.Routing

def failure (st : Nat) : Bool := 400 ≤ st && st < 600

/-- the protocol's default status per method: 201 for create, 204 for update / delete / partial
update without return entity, 200 otherwise -/
def protocolDefault : Kind → Nat
  | .create | .createWithReturnEntity => 201
  | .delete | .update | .partialUpdate => 204
  | _ => 200

/-- what the property demands of the regenerated constants -/
structure TiedErr (C : Consts) : Prop where
  nilStatus : C.srvNilStatus = 500
  recover : C.recoverStatus = 500
  wrap : ∀ k : Kind, failure (wrapStatus C k) = true
  nilResult : ∀ k : Kind, failure (nilResultStatus C k) = true
  preset : ∀ k : Kind, presetStatus C k = protocolDefault k

theorem Kind.mem_all (k : Kind) : k ∈ Kind.all := by
  cases k <;> decide

instance (C : Consts) : Decidable (TiedErr C) :=
  decidable_of_iff
    (C.srvNilStatus = 500 ∧ C.recoverStatus = 500 ∧ ∀ k ∈ Kind.all,
      failure (wrapStatus C k) = true ∧ failure (nilResultStatus C k) = true ∧ presetStatus C k = protocolDefault k)
    ⟨fun ⟨h1, h2, h⟩ =>
      ⟨h1, h2, fun k => (h k k.mem_all).1, fun k => (h k k.mem_all).2.1, fun k => (h k k.mem_all).2.2⟩,
     fun ⟨h1, h2, h3, h4, h5⟩ => ⟨h1, h2, fun k _ => ⟨h3 k, h4 k, h5 k⟩⟩⟩

/-- One conjunction for both generations, as in `Routing.tied_both`. -/
theorem tiedErr_both : TiedErr constsV2 ∧ TiedErr constsRoot := by
  decide +kernel

/-- a successful call answers with the status preset by the `Register*` wrapper -/
theorem receiveImpl_value (C : Consts) (k : Kind) : ∃ b, receiveImpl C k .value = .ok b (presetStatus C k) := by
  simp only [receiveImpl]
  cases k.shape with
  | derefInWrapper =>
    -- `RegisterCreate` answers without a body, `RegisterCreateWithReturnEntity` with one
    by_cases hk : k = .createWithReturnEntity
    · exact ⟨_, if_pos hk⟩
    · exact ⟨_, if_neg hk⟩
  | _ => exact ⟨_, rfl⟩

/-- a successful call that sets a status answers with that status -/
theorem receiveImpl_override (C : Consts) (k : Kind) (n : Nat) (hn : n ≠ 0) :
    ∃ b, receiveImpl C k (.statusOverride n) = .ok b n := by
  simp only [receiveImpl, hn, if_false]
  cases k.shape with
  | derefInWrapper =>
    by_cases hk : k = .createWithReturnEntity
    · exact ⟨_, if_pos hk⟩
    · exact ⟨_, if_neg hk⟩
  | _ => exact ⟨_, rfl⟩

end Restli.ErrorFlow
