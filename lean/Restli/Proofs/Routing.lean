import Restli.Model.Routing
import Restli.Spec.Routing
/-! Routing (C05): first the definitions the statements of `Props/C05.lean` are built from, then the
lemmas behind those statements — the constants of both generations decided in one conjunction
(`tied_both`), `walk` relative to `locateAt`, `route` relative to `locate` and from there route =
specification, and the events of a routed request as one equation (`serveSegs_events`). -/
namespace Restli.Routing
open Spec

/-- what the property text demands of the regenerated constants: the header and parameter names,
the thirteen method names, and the statuses of the not-routed branches (404 for an unknown
sub-resource, 400 for the rest). -/
structure Tied (C : Consts) : Prop where
  methodHeader : C.methodHeader = "X-RestLi-Method"
  mapping : mappingEntries C = Spec.methodTable
  paramFinder : C.paramFinder = "q"
  paramAction : C.paramAction = "action"
  paramIds : C.paramIds = "ids"
  stUnknownSub : C.stUnknownSub = 404
  stInvalidSegment : C.stInvalidSegment = 400
  stInvalidQuery : C.stInvalidQuery = 400
  stPostNeedsHeader : C.stPostNeedsHeader = 400
  stNoEntity : C.stNoEntity = 400
  stEntityForbidden : C.stEntityForbidden = 400
  stEntityOnSimple : C.stEntityOnSimple = 400
  stNoFinder : C.stNoFinder = 400
  stNoAction : C.stNoAction = 400
  stNoMethod : C.stNoMethod = 400

mutual
/-- no handler for `Method_Unknown` (the exported `Register*` functions cannot create one) and no
finder or action with an empty name (a restspec cannot declare one) -/
def nodeOk : Node → Bool
  | .mk _ _ ms fs as subs =>
    !ms.contains .unknown && !fs.contains "" && (as.lookup "").isNone && nodesOk subs
def nodesOk : List Node → Bool
  | [] => true
  | n :: rest => nodeOk n && nodesOk rest
end

/-- (finding "entity presence unchecked for actions") if the request asks for a registered action,
the presence of an entity key matches the level the action was registered at -/
def actionLevelMatches (roots : List Node) (req : Req) : Bool :=
  match locate roots req.path with
  | none => true
  | some t =>
    if methodOf t req == some .action then
      match param "action" req with
      | some name =>
        match t.node.actions.lookup name with
        | some e => e == t.hasKey
        | none => true
      | none => true
    else true

/-- the decision a `Resolved` stands for (`C` is not used) -/
def Resolved.decision (C : Consts) : Resolved → Decision
  | .ok f _ => .routed f
  | .errResp st => .reject st

def admitOr400 : Option Facts → Decision
  | some f => .routed f
  | none => .reject 400

@[simp] theorem decision_ok (C : Consts) (f : Facts) (k : Bool) : (Resolved.ok f k).decision C = .routed f := rfl
@[simp] theorem decision_errResp (C : Consts) (st : Nat) : (Resolved.errResp st).decision C = .reject st := rfl
@[simp] theorem admitOr400_some (f : Facts) : admitOr400 (some f) = .routed f := rfl
@[simp] theorem admitOr400_none : admitOr400 none = .reject 400 := rfl

/-- an event without its payload -/
inductive Tag where
  | pre (i : Nat) | inv | post (i : Nat)
deriving DecidableEq, Repr

def Event.tag : Event → Tag
  | .pre i _ _ => .pre i
  | .invoke _ _ => .inv
  | .post i _ => .post i

/-- the facts an event shows to a filter's `PreRequest` or to the resource method -/
def Event.facts? : Event → Option Facts
  | .pre _ f _ => some f
  | .invoke f _ => some f
  | .post _ _ => none

/-- the filter's `PreRequest` fails -/
def refusesBefore : FilterKind → Bool
  | .failPre | .failPreER _ => true
  | _ => false

/-- the resource method is reached once the filters let the request through: the closure's decoding
succeeds, which for an action includes that the number of entity keys is the one its level needs
(finding: `receive` does not check entity presence for actions, the generated path decoder does) -/
def reaches (f : Facts) (ownKey hasEntity : Bool) (req : Req) : Bool :=
  !(f.method = .action && ownKey != hasEntity) && req.decodes.contains f.method

def noSlash (s : String) : Bool := !s.toList.contains '/'

def registerAll (s : Server) : List (List Seg × Reg) → Server
  | [] => s
  | (segs, r) :: rest => registerAll (s.register segs r).1 rest

/-- what the client of the mux receives: `ServeMux`'s own redirect (301) and not-found (404) carry no
Rest.li headers and touch nothing -/
def MuxResult.outcome : MuxResult → Option Outcome
  | .redirect => some ⟨301, [], []⟩
  | .notFound => some ⟨404, [], []⟩
  | .handled o => some o
  | .unmodelled => none

instance (C : Consts) : Decidable (Tied C) :=
  decidable_of_iff
    (C.methodHeader = "X-RestLi-Method" ∧ mappingEntries C = Spec.methodTable ∧ C.paramFinder = "q" ∧
      C.paramAction = "action" ∧ C.paramIds = "ids" ∧ C.stUnknownSub = 404 ∧ C.stInvalidSegment = 400 ∧
      C.stInvalidQuery = 400 ∧ C.stPostNeedsHeader = 400 ∧ C.stNoEntity = 400 ∧ C.stEntityForbidden = 400 ∧
      C.stEntityOnSimple = 400 ∧ C.stNoFinder = 400 ∧ C.stNoAction = 400 ∧ C.stNoMethod = 400)
    ⟨fun ⟨h1, h2, h3, h4, h5, h6, h7, h8, h9, h10, h11, h12, h13, h14, h15⟩ =>
      ⟨h1, h2, h3, h4, h5, h6, h7, h8, h9, h10, h11, h12, h13, h14, h15⟩,
     fun ⟨h1, h2, h3, h4, h5, h6, h7, h8, h9, h10, h11, h12, h13, h14, h15⟩ =>
      ⟨h1, h2, h3, h4, h5, h6, h7, h8, h9, h10, h11, h12, h13, h14, h15⟩⟩

/-- One conjunction: the lookups the two generations share are then evaluated once. -/
theorem tied_both : Tied constsV2 ∧ Tied constsRoot := by
  decide +kernel

theorem lookupLast_none {α} (k : String) : (l : List (String × α)) → (∀ kv ∈ l, (kv.1 == k) = false) →
    lookupLast k l = none := by
  intro l h
  induction l with
  | nil => rfl
  | cons kv rest ih =>
    rw [lookupLast, ih fun x hx => h x (List.mem_cons_of_mem _ hx), h kv (List.mem_cons_self ..)]
    rfl

theorem lookupLast_eq_find {α} (k : String) : (l : List (String × α)) →
    ((l.filter (fun kv => kv.1 == k)).length ≤ 1) → lookupLast k l = (l.find? (fun kv => kv.1 == k)).map (·.2) := by
  intro l h
  induction l with
  | nil => rfl
  | cons kv rest ih =>
    obtain ⟨k', v⟩ := kv
    rw [lookupLast, List.find?]
    cases hk : k' == k
    · rw [ih (by simpa [List.filter, hk] using h)]
      cases rest.find? (fun kv => kv.1 == k) <;> rfl
    · -- the head matches: nothing later may
      have hrest : ∀ kv ∈ rest, (kv.1 == k) = false := by simpa [List.filter, hk, List.filter_eq_nil_iff] using h
      rw [lookupLast_none k rest hrest]
      rfl

theorem lookupLast_eq_lookup {α} (k : String) : (l : List (String × α)) →
    (l.map (·.1)).Nodup → lookupLast k l = l.lookup k := by
  intro l h
  induction l with
  | nil => rfl
  | cons kv rest ih =>
    obtain ⟨k', v⟩ := kv
    obtain ⟨hk', hrest⟩ := List.nodup_cons.mp h
    rw [lookupLast, List.lookup, ih hrest, BEq.comm (a := k')]
    cases hk : k == k'
    · cases rest.lookup k <;> rfl
    · cases eq_of_beq hk
      have : rest.lookup k = none := List.lookup_eq_none_iff.mpr fun p hp => by
        simpa using fun e : k = p.1 => hk' (e ▸ List.mem_map_of_mem (f := (·.1)) hp)
      rw [this]
      rfl

theorem methodNamed_empty : methodNamed "" = none := by decide +kernel

/-- `MethodNameMapping[header]`: an absent header is looked up as "", which names no method -/
theorem nameMapping_eq {C : Consts} (hC : Tied C) (hdr : Option String) :
    nameMapping C (hdr.getD "") = (hdr.bind methodNamed).getD .unknown := by
  have table : ∀ s, nameMapping C s = (methodNamed s).getD .unknown := fun s => by
    unfold nameMapping methodNamed
    rw [hC.mapping, lookupLast_eq_lookup _ _ (by decide +kernel)]
  cases hdr with
  | none => rw [Option.getD_none, table, methodNamed_empty]; rfl
  | some h => exact table h

theorem methodNamed_ne_unknown (s : String) : methodNamed s ≠ some .unknown := by
  intro h
  obtain ⟨l₁, l₂, e, _⟩ := List.lookup_eq_some_iff.mp h
  have : Method.unknown ∈ methodTable.map (·.2) := by rw [e]; simp
  revert this
  decide +kernel

theorem nodeOk_iff (n : Node) : nodeOk n = true ↔
    .unknown ∉ n.methods ∧ "" ∉ n.finders ∧ n.actions.lookup "" = none ∧
      nodesOk n.subs = true := by
  cases n
  simp [nodeOk, Node.methods, Node.finders, Node.actions, Node.subs, and_assoc]

theorem findSub_ok (s : String) : (l : List Node) → nodesOk l = true → ∀ n, findSub s l = some n → nodeOk n = true := by
  intro l hl n h
  induction l with
  | nil => simp [findSub] at h
  | cons m rest ih =>
    simp only [nodesOk, Bool.and_eq_true] at hl
    simp only [findSub] at h
    split at h
    · simp only [Option.some.injEq] at h; subst h; exact hl.1
    · exact ih hl.2 h

/-- induction along the path a target was located by -/
@[elab_as_elim]
theorem locateAt_ind (P : Node → List String → Target → Prop)
    (here : ∀ n, P n [] ⟨n, [n.seg], [], false⟩)
    (hereKey : ∀ n x, n.isCollection = true → P n [x] ⟨n, [n.seg], [x], true⟩)
    (belowColl : ∀ n x s rest sub t, n.isCollection = true → findSub s n.subs = some sub →
      locateAt sub rest = some t → P sub rest t → P n (x :: s :: rest) (t.under n.seg (some x)))
    (belowSimple : ∀ n x rest sub t, n.isCollection = false → findSub x n.subs = some sub →
      locateAt sub rest = some t → P sub rest t → P n (x :: rest) (t.under n.seg none))
    (n : Node) (rest : List String) (t : Target) (h : locateAt n rest = some t) : P n rest t := by
  fun_induction locateAt n rest generalizing t with
  | case1 n => cases h; exact here n
  | case2 n x hc => cases h; exact hereKey n x hc
  | case3 n x hc s rest' ih =>
    obtain ⟨sub, hf, h⟩ := Option.bind_eq_some_iff.mp h
    obtain ⟨t', hl, rfl⟩ := Option.map_eq_some_iff.mp h
    exact belowColl n x s rest' sub t' hc hf hl (ih sub t' hl)
  | case4 n x rest hc ih =>
    obtain ⟨sub, hf, h⟩ := Option.bind_eq_some_iff.mp h
    obtain ⟨t', hl, rfl⟩ := Option.map_eq_some_iff.mp h
    exact belowSimple n x rest sub t' (by simpa using hc) hf hl (ih sub t' hl)

theorem locateAt_simple_nokey (n : Node) (rest : List String) (t : Target) (h : locateAt n rest = some t) :
    t.node.isCollection = false → t.hasKey = false :=
  locateAt_ind _
    (fun _ _ => rfl) (fun n x hc h => by simp [hc] at h)
    (fun _ _ _ _ _ _ _ _ _ ih => by simpa [Target.under] using ih)
    (fun _ _ _ _ _ _ _ _ ih => by simpa [Target.under] using ih)
    n rest t h

theorem locateAt_keys_mem (n : Node) (rest : List String) (t : Target) (h : locateAt n rest = some t) :
    ∀ k ∈ t.keys, k ∈ rest :=
  locateAt_ind _
    (fun _ k hk => by simp at hk) (fun n x _ k hk => by simpa using hk)
    (fun _ x s rest _ t _ _ _ ih k hk => by
      simp only [Target.under, Option.toList, List.cons_append, List.nil_append, List.mem_cons] at hk
      rcases hk with rfl | hk
      · simp
      · exact List.mem_cons_of_mem _ (List.mem_cons_of_mem _ (ih k hk)))
    (fun _ x rest _ t _ _ _ ih k hk => by
      simp only [Target.under, Option.toList, List.nil_append] at hk
      exact List.mem_cons_of_mem _ (ih k hk))
    n rest t h

theorem locateAt_node_ok {n : Node} {rest : List String} {t : Target} (h : locateAt n rest = some t) :
    nodeOk n = true → nodeOk t.node = true :=
  locateAt_ind _
    (fun _ h => h) (fun _ _ _ h => h)
    (fun n _ s _ sub _ _ hf _ ih hn => by
      simpa [Target.under] using ih (findSub_ok s n.subs ((nodeOk_iff n).mp hn).2.2.2 sub hf))
    (fun n x _ sub _ _ hf _ ih hn => by
      simpa [Target.under] using ih (findSub_ok x n.subs ((nodeOk_iff n).mp hn).2.2.2 sub hf))
    n rest t h

/-- what the walk returns when the path names a resource: the resource, unless one of the keys on the
way is malformed -/
theorem walk_some (C : Consts) (V : String → Bool) (n : Node) (rest : List String) (t : Target)
    (h : locateAt n rest = some t) :
    ∀ (rp : List Seg) (ks : List String) (x : String),
      walk C V n rp ks (x :: rest) =
        if t.keys.all V then .found t.node (rp ++ t.rpath) (ks ++ t.keys) t.hasKey else .err C.stInvalidSegment := by
  refine locateAt_ind _ ?_ ?_ ?_ ?_ n rest t h
  · intro n rp ks x
    cases hc : n.isCollection <;> simp [walk, hc]
  · intro n k hc rp ks x
    cases hv : V k <;> simp [walk, hc, hv]
  · intro n k s rest sub t hc hf _ ih rp ks x
    cases hv : V k
    · simp [walk, hc, hv, Target.under]
    · simp [walk, hc, hv, hf, ih, Target.under]
  · intro n a rest sub t hc hf _ ih rp ks x
    -- one step of `walk` only: unfolding it again would consume the call the hypothesis speaks of
    cases rest
    all_goals
      rw [walk]
      simp only [hc, Bool.false_eq_true, if_false, hf, ih]
      simp [Target.under]

/-- …and when it names none: the unknown sub-resource is reported, unless a malformed key comes first -/
theorem walk_none (C : Consts) (V : String → Bool) (n : Node) (rest : List String)
    (h : locateAt n rest = none) (rp : List Seg) (ks : List String) (x : String) :
    ∃ st, walk C V n rp ks (x :: rest) = .err st ∧
      (st = C.stUnknownSub ∨ st = C.stInvalidSegment ∧ rest.all V = false) := by
  fun_induction locateAt n rest generalizing rp ks x with
  | case1 n => cases h
  | case2 n k hc => cases h
  | case3 n k hc s rest' ih =>
    cases hv : V k
    · exact ⟨_, by simp [walk, hc, hv], Or.inr ⟨rfl, by simp [hv]⟩⟩
    · cases hf : findSub s n.subs with
      | none => exact ⟨_, by simp [walk, hc, hv, hf], Or.inl rfl⟩
      | some sub =>
        obtain ⟨st, hw, hst⟩ := ih sub (by simpa [hf] using h) (rp ++ [n.seg]) (ks ++ [k]) s
        exact ⟨st, by simp [walk, hc, hv, hf, hw], hst.imp_right fun ⟨e, ha⟩ => ⟨e, by simp [ha]⟩⟩
  | case4 n s rest hc ih =>
    cases hf : findSub s n.subs with
    | none => exact ⟨_, by simp [walk, hc, hf], Or.inl rfl⟩
    | some sub =>
      obtain ⟨st, hw, hst⟩ := ih sub (by simpa [hf] using h) (rp ++ [n.seg]) ks s
      exact ⟨st, by simp [walk, hc, hf, hw], hst.imp_right fun ⟨e, ha⟩ => ⟨e, by simp [ha]⟩⟩

/-- the last two rows of the specification's table, on the request's features -/
def specTail (t : Target) (verb : Verb) (hdr q act : Option String) (ids : Bool) : Decision :=
  match methodFor t.node.isCollection t.hasKey verb hdr q.isSome ids act.isSome with
  | none => .reject 400
  | some m => admitOr400 (admittedWith t m q act)

theorem getD_empty_bne_eq_isSome (q : Option String) (hq : q ≠ some "") : (q.getD "" != "") = q.isSome := by
  cases q with
  | none => rfl
  | some s =>
    have : s ≠ "" := fun h => hq (by rw [h])
    simp [this]

/-- collection resource, method `m` settled: entity validation + handler lookup = `admittedWith` -/
theorem finish_checkEntity_eq_admittedWith {C : Consts} (hC : Tied C) {t : Target} {m : Method} {q act : Option String}
    (hcoll : t.node.isCollection = true) (hok : nodeOk t.node = true)
    (hlevel : m = .action → ∀ name e, act = some name → t.node.actions.lookup name = some e → e = t.hasKey) :
    (finish C t.node t.rpath t.keys t.hasKey (q.getD "") (act.getD "") (checkEntity C m t.hasKey)).decision C =
      admitOr400 (admittedWith t m q act) := by
  obtain ⟨hu, hf, ha, _⟩ := (nodeOk_iff _).mp hok
  by_cases hact : m = .action
  · -- an action: entity presence is not validated, the guard says it fits
    subst hact
    simp only [finish, checkEntity, needsEntity, forbidsEntity, lookupHandler, admittedWith, Bool.false_and,
      Bool.false_eq_true, if_false, reduceCtorEq, if_true]
    cases act with
    | none => simp [ha, hC.stNoAction]
    | some name =>
      cases hl : List.lookup name t.node.actions with
      | none => simp [hl, hC.stNoAction]
      | some e => simp [hl, hlevel rfl name e rfl hl]
  cases m <;> cases hk : t.hasKey <;>
    simp [finish, checkEntity, needsEntity, forbidsEntity, lookupHandler, admittedWith, takesKey,
      hcoll, hk, hC.stNoEntity, hC.stEntityForbidden, hC.stNoFinder,
      hC.stNoMethod, hu, apply_ite (Resolved.decision C), apply_ite admitOr400] at hact ⊢
  · -- finder, no key
    cases q with
    | none => simp [hf]
    | some name => simp [apply_ite admitOr400]
  · -- finder, with key
    cases q <;> rfl

theorem lookupHandler_decision_method {C : Consts} (hC : Tied C) (t : Target) (k : Bool) (m : Method) (f a : String)
    (hf : m ≠ .finder) (ha : m ≠ .action) :
    (lookupHandler C t.node t.rpath t.keys k m f a).decision C =
      if t.node.methods.contains m then .routed ⟨m, t.rpath, t.keys, none, none⟩ else .reject 400 := by
  simp [lookupHandler, hf, ha, apply_ite (Resolved.decision C), hC.stNoMethod]

/-- `receive` after the walk = the last two rows of the specification's table, on every request the
text determines and outside the action-level finding. `hUnknownHeader`, `hEmptyReserved`, `hOtherVerb`, `hKeyAndIds` are the specification's
`unknownHeaderValue`, `emptyReservedValue`, `otherVerbWithHeaderOnSimple` and `keyAndIds`, unfolded on
the request's features. -/
theorem resolveWith_eq {C : Consts} (hC : Tied C) {t : Target} {verb : Verb} {hdr q act : Option String}
    {ids : Bool} (hok : nodeOk t.node = true)
    (hsimple : t.node.isCollection = false → t.hasKey = false)
    (hUnknownHeader : (match hdr with | some h => (methodNamed h).isNone | none => false) = false)
    (hEmptyReserved : (q == some "" || act == some "") = false)
    (hOtherVerb : (!t.node.isCollection && verb == .other && hdr.isSome) = false)
    (hKeyAndIds : (t.node.isCollection && hdr.isNone && (verb == .PUT || verb == .DELETE) && t.hasKey && ids) = false)
    (hlevel : methodFor t.node.isCollection t.hasKey verb hdr q.isSome ids act.isSome = some .action →
      ∀ name e, act = some name → t.node.actions.lookup name = some e → e = t.hasKey) :
    (resolveWith C t.node t.rpath t.keys t.hasKey verb ((hdr.bind methodNamed).getD .unknown)
        (q.getD "") (act.getD "") ids).decision C = specTail t verb hdr q act ids := by
  have hu := ((nodeOk_iff _).mp hok).1
  have hq : q ≠ some "" := fun e => by simp [e] at hEmptyReserved
  have ha : act ≠ some "" := fun e => by simp [e] at hEmptyReserved
  unfold resolveWith specTail
  cases hc : t.node.isCollection
  · -- simple resource
    have hk := hsimple hc
    simp only [hk, Bool.false_eq_true, if_false]
    cases verb with
    | POST =>
      rw [hc] at hlevel
      cases act with
      | none =>
        simp [simpleMethod, methodFor, finish, lookupHandler_decision_method hC, admittedWith, hc, hk,
          apply_ite admitOr400]
      | some name =>
        have hne : name ≠ "" := fun h => ha (by rw [h])
        have hlv := hlevel (by simp [methodFor])
        simp only [simpleMethod, methodFor, Option.getD_some, bne_iff_ne, ne_eq, hne, not_false_eq_true,
          if_true, Option.isSome_some, finish, lookupHandler, reduceCtorEq, if_false, admittedWith]
        cases hl : List.lookup name t.node.actions with
        | none => simp [hC.stNoAction]
        | some e =>
          have := hlv name e rfl hl
          simp [this, hk]
    | other =>
      -- only without a header
      have : hdr = none := by simpa [hc] using hOtherVerb
      subst this
      simp [simpleMethod, methodFor, finish, lookupHandler_decision_method hC, hu]
    | GET | PUT | DELETE =>
      simp [simpleMethod, methodFor, finish, lookupHandler_decision_method hC, admittedWith, hc, hk,
        apply_ite admitOr400]
  · -- collection-like resource
    simp only [if_true]
    rw [hc] at hlevel
    cases hdr with
    | some h =>
      cases hm : methodNamed h with
      | none => simp [hm] at hUnknownHeader
      | some m =>
        have hmu : m ≠ .unknown := fun e => methodNamed_ne_unknown h (e ▸ hm)
        simp only [Option.bind_some, hm, Option.getD_some, hmu, if_false, methodFor, if_true,
          Option.some.injEq] at hlevel ⊢
        exact finish_checkEntity_eq_admittedWith hC hc hok hlevel
    | none =>
      simp only [Option.bind_none, Option.getD_none, if_true]
      cases verb with
      | GET =>
        simp only [inferMethod, getD_empty_bne_eq_isSome q hq, methodFor, if_true, ← apply_ite some,
          Option.some.injEq] at hlevel ⊢
        exact finish_checkEntity_eq_admittedWith hC hc hok hlevel
      | POST =>
        -- requires the header
        simp [inferMethod, methodFor, finish, hC.stPostNeedsHeader]
      | PUT | DELETE =>
        cases hk : t.hasKey <;> cases hi : ids
        · simp [inferMethod, methodFor, finish, checkEntity, needsEntity, hC.stNoEntity]
        · simp only [inferMethod, methodFor, if_true, Bool.false_eq_true, if_false]
          rw [← hk]; exact finish_checkEntity_eq_admittedWith hC hc hok (fun e => by cases e)
        · simp only [inferMethod, methodFor, if_true, Bool.false_eq_true, if_false]
          rw [← hk]; exact finish_checkEntity_eq_admittedWith hC hc hok (fun e => by cases e)
        · simp [hc, hk, hi] at hKeyAndIds
      | other =>
        -- names no method
        simp [inferMethod, methodFor, finish, checkEntity, needsEntity, forbidsEntity,
          lookupHandler_decision_method hC, hu]

/-- a reserved parameter given at most once: the model's last occurrence is the table's first -/
theorem param_eq_lookupLast {req : Req} (h : duplicateReserved req = false) (name : String)
    (hn : name ∈ ["q", "ids", "action"]) : lookupLast name req.query = param name req :=
  lookupLast_eq_find name req.query (by simpa using List.any_eq_false.mp h name hn)

theorem locate_eq_some {roots : List Node} {p : List String} {t : Target} (h : locate roots p = some t) :
    ∃ s rest sub, p = s :: rest ∧ findSub s roots = some sub ∧ locateAt sub rest = some t := by
  cases p with
  | nil => cases h
  | cons s rest =>
    obtain ⟨sub, hf, hl⟩ := Option.bind_eq_some_iff.mp h
    exact ⟨s, rest, sub, rfl, hf, hl⟩

theorem route_located (C : Consts) (V : String → Bool) {roots : List Node} {req : Req} {t : Target}
    (h : locate roots req.path = some t) :
    route C V roots req =
      if t.keys.all V then (resolve C V t.node t.rpath t.keys t.hasKey req).decision C
      else .reject C.stInvalidSegment := by
  obtain ⟨s, rest, sub, hp, hf, hl⟩ := locate_eq_some h
  simp only [route, routeX, hp, hf, walk_some C V sub rest t hl [] [] s, List.nil_append]
  by_cases hk : t.keys.all V = true
  · simp only [if_pos hk]
    cases resolve C V t.node t.rpath t.keys t.hasKey req <;> rfl
  · simp only [if_neg hk]

theorem route_unlocated {C : Consts} (hC : Tied C) (V : String → Bool) {roots : List Node} {req : Req}
    (h : locate roots req.path = none) :
    ∃ st, route C V roots req = .reject st ∧ (st = 404 ∨ st = 400 ∧ req.path.all V = false) := by
  cases hp : req.path with
  | nil => exact ⟨404, by simp [route, routeX, hp, Consts.stRootNotFound], Or.inl rfl⟩
  | cons s rest =>
    cases hf : findSub s roots with
    | none => exact ⟨404, by simp [route, routeX, hp, hf, Consts.stRootNotFound], Or.inl rfl⟩
    | some sub =>
      have hl : locateAt sub rest = none := by simpa [locate, hp, hf] using h
      obtain ⟨st, hw, hst⟩ := walk_none C V sub rest hl [] [] s
      refine ⟨st, by simp [route, routeX, hp, hf, hw], ?_⟩
      rcases hst with rfl | ⟨rfl, ha⟩
      · exact Or.inl hC.stUnknownSub
      · exact Or.inr ⟨hC.stInvalidSegment, by simp [ha]⟩

/-- an unknown resource with no malformed segment on the way: 404 -/
theorem route_unknown {C : Consts} (hC : Tied C) {V : String → Bool} {roots : List Node} {req : Req}
    (h : locate roots req.path = none) (hMalformedUnknown : malformedAndUnknown V roots req = false) :
    route C V roots req = .reject 404 := by
  obtain ⟨st, hr, hst⟩ := route_unlocated hC V h
  have hall : req.path.all V = true := by simpa [malformedAndUnknown, h] using hMalformedUnknown
  rcases hst with rfl | ⟨_, hbad⟩
  · exact hr
  · rw [hall] at hbad; cases hbad

/-- the model's decision is the specification's, on every request the text determines and outside
the action-level finding -/
theorem route_eq_specDecide (C : Consts) (hC : Tied C) (V : String → Bool) (roots : List Node) (req : Req)
    (hroots : nodesOk roots = true)
    (hact : actionLevelMatches roots req = true)
    (hUnknownHeader : unknownHeaderValue req = false) (hEmptyReserved : emptyReservedValue req = false)
    (hDupReserved : duplicateReserved req = false) (hMalformedUnknown : malformedAndUnknown V roots req = false)
    (hOpen : ∀ t, locate roots req.path = some t → otherVerbWithHeaderOnSimple t req = false ∧ keyAndIds t req = false) :
    route C V roots req = Spec.decide V roots req := by
  cases hloc : locate roots req.path with
  | none => simp [route_unknown hC hloc hMalformedUnknown, Spec.decide, hloc]
  | some t =>
    rw [route_located C V hloc]
    obtain ⟨s, rest, sub, _, hf, hl⟩ := locate_eq_some hloc
    have hok : nodeOk t.node = true := locateAt_node_ok hl (findSub_ok s roots hroots sub hf)
    have hsimple := locateAt_simple_nokey sub rest t hl
    by_cases hkeys : t.keys.all V = true
    · rw [if_pos hkeys]
      by_cases hqv : (req.query.all fun kv => V kv.2) = true
      · have hdec : Spec.decide V roots req = specTail t req.verb (methodHeader req) (param "q" req) (param "action" req)
            (param "ids" req).isSome := by
          simp only [Spec.decide, hloc, hkeys, hqv, Bool.not_true, Bool.or_self, Bool.false_eq_true, if_false,
            specTail, methodOf, admitted]
          cases methodFor t.node.isCollection t.hasKey req.verb (methodHeader req) (param "q" req).isSome
            (param "ids" req).isSome (param "action" req).isSome with
          | none => rfl
          | some m => cases admittedWith t m (param "q" req) (param "action" req) <;> rfl
        rw [hdec]
        simp only [resolve, hqv, Bool.not_true, Bool.false_eq_true, if_false, nameMapping_eq hC, hC.methodHeader,
          hC.paramFinder, hC.paramAction, hC.paramIds,
          param_eq_lookupLast hDupReserved "q" (.head _), param_eq_lookupLast hDupReserved "ids" (.tail _ (.head _)),
          param_eq_lookupLast hDupReserved "action" (.tail _ (.tail _ (.head _)))]
        refine resolveWith_eq hC hok hsimple hUnknownHeader hEmptyReserved (hOpen t hloc).1 (hOpen t hloc).2 ?_
        · intro hm name e hname hlook
          have hm' : methodOf t req = some .action := hm
          simp only [actionLevelMatches, hloc, hm', beq_self_eq_true, if_true, hname, hlook] at hact
          simpa using hact
      · -- a malformed query value: 400 on both sides
        have hqv' : (req.query.all fun kv => V kv.2) = false := by simpa using hqv
        simp [resolve, hqv', Spec.decide, hloc, hkeys, hC.stInvalidQuery]
    · -- a malformed key on the way: 400 on both sides
      have hkeys' : t.keys.all V = false := by simpa using hkeys
      simp [hkeys', Spec.decide, hloc, hC.stInvalidSegment]

theorem specDecide_routed_iff (V : String → Bool) (roots : List Node) (req : Req) (f : Facts) :
    Spec.decide V roots req = .routed f ↔ Routable V roots req f := by
  -- both sides are the same case analysis: `locate`, the two validity tests, `methodOf`, `admitted`
  unfold Spec.decide Routable
  grind

theorem resolveWith_reject {C : Consts} (hC : Tied C) {n : Node} {rp : List Seg} {ks : List String} {hasEntity : Bool}
    {verb : Verb} {m0 : Method} {finder action : String} {ids : Bool} {st : Nat}
    (h : (resolveWith C n rp ks hasEntity verb m0 finder action ids).decision C = .reject st) : st = 400 := by
  -- every branch that refuses does so with one of the statuses `Tied` pins to 400
  have err : ∀ {s}, s = 400 → (Resolved.errResp s).decision C = .reject st → st = 400 := by
    rintro s rfl h; cases h; rfl
  have key : ∀ m, (lookupHandler C n rp ks hasEntity m finder action).decision C = .reject st → st = 400 := by
    intro m hm
    unfold lookupHandler at hm
    split at hm
    · split at hm
      · cases hm
      · exact err hC.stNoFinder hm
    · split at hm
      · split at hm
        · cases hm
        · exact err hC.stNoAction hm
      · split at hm
        · cases hm
        · exact err hC.stNoMethod hm
  have chk : ∀ m, (finish C n rp ks hasEntity finder action (checkEntity C m hasEntity)).decision C = .reject st →
      st = 400 := by
    intro m hm
    unfold checkEntity at hm
    split at hm
    · exact err hC.stNoEntity hm
    · split at hm
      · exact err hC.stEntityForbidden hm
      · exact key m hm
  unfold resolveWith at h
  split at h
  · split at h
    · split at h
      · exact chk _ h
      · exact err hC.stPostNeedsHeader h
    · exact chk _ h
  · split at h
    · exact err hC.stEntityOnSimple h
    · exact key _ h

theorem reject_located {C : Consts} (hC : Tied C) {V : String → Bool} {roots : List Node} {req : Req}
    {t : Target} {st : Nat} (hloc : locate roots req.path = some t)
    (h : route C V roots req = .reject st) : st = 400 := by
  rw [route_located C V hloc] at h
  split at h
  · simp only [resolve] at h
    split at h
    · cases h; exact hC.stInvalidQuery
    · exact resolveWith_reject hC h
  · cases h; exact hC.stInvalidSegment

theorem count_inv_pre (l : List Nat) : (l.map Tag.pre).count Tag.inv = 0 := by
  simp [List.count_eq_zero]

theorem count_inv_post (l : List Nat) : (l.map Tag.post).count Tag.inv = 0 := by
  simp [List.count_eq_zero]

/-- `PreRequest` calls, numbered from `i` without gaps, each shown `f`; they all run exactly when no
filter refuses -/
theorem runPre_shape (f : Facts) : ∀ (fs : List FilterKind) (i : Nat) (seen : List Nat),
    ∃ k, k ≤ fs.length ∧ (runPre f fs i seen).1.map Event.tag = (List.range' i k).map Tag.pre ∧
      ((runPre f fs i seen).2.2 = none → k = fs.length) ∧
      (fs.any refusesBefore = false → (runPre f fs i seen).2.2 = none) ∧
      (∀ e ∈ (runPre f fs i seen).1, e.facts? = some f) := by
  intro fs
  induction fs with
  | nil => exact fun i seen => ⟨0, by simp [runPre]⟩
  | cons k rest ih =>
    intro i seen
    by_cases hk : refusesBefore k = true
    · exact ⟨1, by cases k <;> simp [runPre, refusesBefore, Event.tag, Event.facts?, List.range'] at hk ⊢⟩
    · -- a filter that lets the request through: the others follow, with or without its context value
      obtain ⟨seen', hrun⟩ : ∃ seen', runPre f (k :: rest) i seen =
          (Event.pre i f seen :: (runPre f rest (i + 1) seen').1, (runPre f rest (i + 1) seen').2) := by
        cases k <;> simp [refusesBefore] at hk <;> exact ⟨_, rfl⟩
      obtain ⟨k', hk', ht, hn, hr, hf⟩ := ih (i + 1) seen'
      rw [hrun]
      exact ⟨k' + 1, Nat.succ_le_succ hk', by simp only [List.map_cons, List.range'_succ, ht, Event.tag],
        fun h => congrArg (· + 1) (hn h), fun h => hr (Bool.or_eq_false_iff.mp h).2,
        List.forall_mem_cons.mpr ⟨rfl, hf⟩⟩

/-- `PostRequest` calls in the order given, up to the first that fails; none carries facts -/
theorem runPostRev_shape (seen : List Nat) : ∀ (l : List (Nat × FilterKind)),
    ∃ m, m ≤ l.length ∧ (runPostRev seen l).1.map Event.tag = (l.take m).map (fun p => Tag.post p.1) ∧
      ((runPostRev seen l).2 = none → m = l.length) ∧
      (l.any (fun p => p.2 == .failPost) = false → (runPostRev seen l).2 = none) ∧
      (∀ e ∈ (runPostRev seen l).1, e.facts? = none) := by
  intro l
  induction l with
  | nil => exact ⟨0, by simp [runPostRev]⟩
  | cons p rest ih =>
    obtain ⟨i, k⟩ := p
    by_cases hk : k = .failPost
    · exact ⟨1, by simp [runPostRev, hk, Event.tag, Event.facts?]⟩
    · have hrun : runPostRev seen ((i, k) :: rest) =
          (Event.post i seen :: (runPostRev seen rest).1, (runPostRev seen rest).2) := by
        simp only [runPostRev, hk, if_false]
      obtain ⟨m, hm, ht, hn, hr, hf⟩ := ih
      rw [hrun]
      exact ⟨m + 1, Nat.succ_le_succ hm, by simp only [List.map_cons, List.take_succ_cons, ht, Event.tag],
        fun h => congrArg (· + 1) (hn h), fun h => hr (Bool.or_eq_false_iff.mp h).2,
        List.forall_mem_cons.mpr ⟨rfl, hf⟩⟩

theorem indexed_map {α} : ∀ (l : List α) (i : Nat),
    (indexed l i).map Prod.fst = List.range' i l.length ∧ (indexed l i).map Prod.snd = l := by
  intro l
  induction l with
  | nil => exact fun _ => ⟨rfl, rfl⟩
  | cons _ rest ih => exact fun i => by simp [indexed, ih (i + 1), List.range'_succ]

/-- `PostRequest` calls in reverse registration order -/
theorem runPost_shape (fs : List FilterKind) (seen : List Nat) :
    ∃ m, m ≤ fs.length ∧ (runPost fs seen).1.map Event.tag = ((List.range fs.length).reverse.take m).map Tag.post ∧
      ((runPost fs seen).2 = none → m = fs.length) ∧
      (fs.any (· == .failPost) = false → (runPost fs seen).2 = none) ∧
      (∀ e ∈ (runPost fs seen).1, e.facts? = none) := by
  obtain ⟨m, hm, ht, hn, hr, hf⟩ := runPostRev_shape seen (indexed fs 0).reverse
  have hlen : (indexed fs 0).reverse.length = fs.length := by
    simpa using congrArg List.length (indexed_map fs 0).1
  refine ⟨m, by omega, ?_, fun h => by rw [hn h, hlen], fun h => hr ?_, hf⟩
  · rw [runPost, ht, List.range_eq_range', ← (indexed_map fs 0).1, ← List.map_reverse, ← List.map_take,
      List.map_map]
    rfl
  · rw [List.any_reverse]
    rw [← (indexed_map fs 0).2, List.any_map] at h
    exact h

theorem respond_events (C : Consts) (evs : List Event) (r : Option Fail) (st : Nat) :
    (respond C evs r st).events = evs := by
  cases r with
  | none => rfl
  | some e => cases e <;> rfl

/-- the closure's three ways to end -/
theorem runHandler_eq (C : Consts) (f : Facts) (o e : Bool) (req : Req) (seen : List Nat) :
    runHandler C f o e req seen =
      if reaches f o e req = true then
        if req.implOk = true then ([.invoke f seen], none, C.stSuccess f.method)
        else ([.invoke f seen], some (.errResp (C.stImplFailed f.method)), 0)
      else ([], some (.errResp (C.stDecode f.method)), 0) := by
  unfold runHandler reaches
  cases (f.method = .action && o != e) <;> cases req.decodes.contains f.method <;> cases req.implOk <;> rfl

/-- the events of a routed request: the `PreRequest` calls; the method, if they all let the request
through and it decodes; the `PostRequest` calls, if the method succeeded -/
theorem serveSegs_events {C : Consts} {V : String → Bool} (h : Handler) {req : Req}
    {f : Facts} {o e : Bool} (hr : routeX C V h.roots req = .routed f o e) :
    (serveSegs C V h req).events =
      (runPre f h.filters 0 []).1 ++
        if (runPre f h.filters 0 []).2.2 = none ∧ reaches f o e req = true then
          Event.invoke f (runPre f h.filters 0 []).2.1 ::
            (if req.implOk = true then (runPost h.filters (runPre f h.filters 0 []).2.1).1 else [])
        else [] := by
  simp only [serveSegs, hr, runHandler_eq]
  generalize runPre f h.filters 0 [] = p
  obtain ⟨pre, seen, r⟩ := p
  cases r with
  | some fail => simp [respond_events]
  | none =>
    by_cases hgo : reaches f o e req = true
    · by_cases himpl : req.implOk = true
      · simp only [hgo, himpl, if_true, and_self]
        generalize runPost h.filters seen = p
        obtain ⟨post, r⟩ := p
        cases r <;> simp [respond_events]
      · simp [hgo, himpl, respond_events]
    · simp [hgo, respond_events]

/-- the shape of the events `evs` of a request routed with facts `f` through filters `fs`, whatever
fails on the way: `k` `PreRequest` calls, the events `mid` of the method (none or one), `m`
`PostRequest` calls -/
structure RoutedShape (fs : List FilterKind) (req : Req) (f : Facts) (ownKey hasEntity : Bool)
    (evs : List Event) (k m : Nat) (mid : List Event) : Prop where
  pre_le : k ≤ fs.length
  post_le : m ≤ fs.length
  tags : evs.map Event.tag =
    (List.range k).map Tag.pre ++ mid.map Event.tag ++ ((List.range fs.length).reverse.take m).map Tag.post
  mid_cases : mid = [] ∨ ∃ s, mid = [.invoke f s]
  reached : mid ≠ [] → k = fs.length ∧ reaches f ownKey hasEntity req = true
  post_ran : m ≠ 0 → mid ≠ [] ∧ req.implOk = true
  facts : ∀ e ∈ evs, e.facts? = none ∨ e.facts? = some f
  served : fs.any refusesBefore = false → k = fs.length ∧
    (reaches f ownKey hasEntity req = true → mid ≠ [] ∧
      (req.implOk = true → fs.any (· == .failPost) = false → m = fs.length))

theorem serveSegs_routed_shape {C : Consts} {V : String → Bool} (h : Handler) {req : Req}
    {f : Facts} {ownKey hasEntity : Bool} (hr : routeX C V h.roots req = .routed f ownKey hasEntity) :
    ∃ (k m : Nat) (mid : List Event),
      RoutedShape h.filters req f ownKey hasEntity (serveSegs C V h req).events k m mid := by
  obtain ⟨k, hk, hkt, hkn, hkr, hkf⟩ := runPre_shape f h.filters 0 []
  rw [serveSegs_events h hr]
  rcases hpre : runPre f h.filters 0 [] with ⟨pre, seen, r⟩
  simp only [hpre] at hkt hkn hkr hkf ⊢
  rw [← List.range_eq_range'] at hkt
  by_cases hgo : r = none ∧ reaches f ownKey hasEntity req = true
  · have hk' : k = h.filters.length := hkn hgo.1
    simp only [if_pos hgo]
    by_cases himpl : req.implOk = true
    · -- the method ran and succeeded: post filters
      obtain ⟨m, hm, hmt, hmn, hmr, hmf⟩ := runPost_shape h.filters seen
      simp only [if_pos himpl]
      exact ⟨k, m, [.invoke f seen], hk, hm, by simp [hkt, hmt, Event.tag], Or.inr ⟨seen, rfl⟩,
        fun _ => ⟨hk', hgo.2⟩, fun _ => ⟨by simp, himpl⟩,
        List.forall_mem_append.mpr ⟨fun ev hp => Or.inr (hkf ev hp),
          List.forall_mem_cons.mpr ⟨Or.inr rfl, fun ev hp => Or.inl (hmf ev hp)⟩⟩,
        fun _ => ⟨hk', fun _ => ⟨by simp, fun _ hnp => hmn (hmr hnp)⟩⟩⟩
    · -- the method failed
      simp only [if_neg himpl]
      exact ⟨k, 0, [.invoke f seen], hk, Nat.zero_le _, by simp [hkt, Event.tag], Or.inr ⟨seen, rfl⟩,
        fun _ => ⟨hk', hgo.2⟩, by simp,
        List.forall_mem_append.mpr ⟨fun ev hp => Or.inr (hkf ev hp), List.forall_mem_singleton.mpr (Or.inr rfl)⟩,
        fun _ => ⟨hk', fun _ => ⟨by simp, fun hi => absurd hi himpl⟩⟩⟩
  · -- a filter refused, or keys, parameters or body do not decode: the method is not reached
    simp only [if_neg hgo, List.append_nil]
    exact ⟨k, 0, [], hk, Nat.zero_le _, by simp [hkt], Or.inl rfl, by simp, by simp,
      fun ev hev => Or.inr (hkf ev hev),
      fun hnr => ⟨hkn (hkr hnr), fun hreach => absurd ⟨hkr hnr, hreach⟩ hgo⟩⟩

theorem splitSlash_ne_nil : ∀ cs, splitSlash cs ≠ [] := by
  intro cs
  cases cs with
  | nil => simp [splitSlash]
  | cons c cs =>
    simp only [splitSlash]
    split
    · simp
    · split <;> simp

theorem splitSlash_noSlash : ∀ (cs : List Char), cs.contains '/' = false → splitSlash cs = [cs] := by
  intro cs h
  induction cs with
  | nil => rfl
  | cons c cs ih =>
    simp only [List.contains_cons, Bool.or_eq_false_iff, beq_eq_false_iff_ne, ne_eq] at h
    have hc : c ≠ '/' := fun e => h.1 e.symm
    simp [splitSlash, ih h.2, hc]

theorem splitSlash_append (a : List Char) (ha : a.contains '/' = false) (rest : List Char) :
    splitSlash (a ++ '/' :: rest) = a :: splitSlash rest := by
  induction a with
  | nil =>
    simp only [List.nil_append, splitSlash]
    cases hs : splitSlash rest with
    | nil => exact absurd hs (splitSlash_ne_nil rest)
    | cons seg more => simp
  | cons c cs ih =>
    simp only [List.contains_cons, Bool.or_eq_false_iff, beq_eq_false_iff_ne, ne_eq] at ha
    have hc : c ≠ '/' := fun e => ha.1 e.symm
    simp [splitSlash, ih ha.2, hc]

theorem splitSlash_joinSlash : ∀ (segs : List String), segs ≠ [] → segs.all noSlash = true →
    (splitSlash (joinSlash segs)).map String.ofList = segs := by
  intro segs hne h
  induction segs with
  | nil => exact absurd rfl hne
  | cons s more ih =>
    cases more with
    | nil =>
      simp only [List.all_cons, List.all_nil, Bool.and_true, noSlash, Bool.not_eq_eq_eq_not, Bool.not_true] at h
      simp [joinSlash, splitSlash_noSlash _ h]
    | cons s2 rest =>
      simp only [List.all_cons, Bool.and_eq_true] at h
      have hs : s.toList.contains '/' = false := by simpa [noSlash] using h.1
      have ih := ih (by simp) (by simp [List.all_cons, h.2])
      simp only [joinSlash, splitSlash_append _ hs, List.map_cons, ih]
      simp

theorem route_routed_iff {C : Consts} {V : String → Bool} {roots : List Node} {req : Req} {f : Facts} :
    route C V roots req = .routed f ↔ ∃ o e, routeX C V roots req = .routed f o e := by
  unfold route
  cases routeX C V roots req <;> simp

theorem serveSegs_unrouted {C : Consts} {V : String → Bool} {h : Handler} {req : Req} {st : Nat}
    (hr : route C V h.roots req = .reject st) :
    (serveSegs C V h req).events = [] ∧ (serveSegs C V h req).status = st := by
  unfold route at hr
  unfold serveSegs
  cases hx : routeX C V h.roots req <;> rw [hx] at hr <;> simp_all [respond]

mutual
theorem cloneNode_eq : (n : Node) → cloneNode n = n
  | .mk _ _ _ _ _ subs => by simp [cloneNode, cloneNodes_eq subs]
theorem cloneNodes_eq : (l : List Node) → cloneNode.cloneNodes l = l
  | [] => by simp [cloneNode.cloneNodes]
  | n :: rest => by simp [cloneNode.cloneNodes, cloneNode_eq n, cloneNodes_eq rest]
end

theorem handler_roots (s : Server) : s.handler.roots = s.roots := by
  simp [Server.handler, cloneNodes_eq]

/-- registration touches the tree only, and only depends on it -/
theorem registerAll_congr_root (s s' : Server) (h : s.root = s'.root) (regs : List (List Seg × Reg)) :
    registerAll s regs = { s with root := (registerAll s' regs).root } := by
  induction regs generalizing s s' with
  | nil => cases s; simp [registerAll, ← h]
  | cons x rest ih =>
    exact ih (s.register x.1 x.2).1 (s'.register x.1 x.2).1 (by simp [Server.register, h])

theorem slash_toList : ("/" : String).toList = ['/'] := by decide +kernel

theorem stripPrefix_append : ∀ (p rest : List Char), stripPrefix p (p ++ rest) = some rest := by
  intro p rest
  induction p with
  | nil => rfl
  | cons c p ih => simp [stripPrefix, ih]

theorem serveHTTP_under_prefix (C : Consts) (V : String → Bool) (h : Handler) (req : Req) (urlPath : String)
    (hne : req.path ≠ []) (hns : req.path.all noSlash = true) :
    serveHTTP C V h ⟨String.ofList (h.pfx.toList ++ joinSlash req.path), urlPath, req⟩ = serveSegs C V h req := by
  simp only [serveHTTP, String.toList_ofList, stripPrefix_append, splitSlash_joinSlash _ hne hns]

/-- a prefixed server and a plain one, given the same filters and registrations, differ in the
stored prefix only -/
theorem prefixed_handler (C : Consts) (p : String) (fs : List FilterKind) (regs : List (List Seg × Reg)) :
    (registerAll (newPrefixedServer C p fs) regs).handler =
      { (registerAll (newServer C fs) regs).handler with pfx := (newPrefixedServer C p fs).pfx } := by
  have hf : (registerAll (newServer C fs) regs).filters = fs := by
    rw [registerAll_congr_root _ _ rfl]; rfl
  rw [registerAll_congr_root (newPrefixedServer C p fs) (newServer C fs) rfl]
  simp only [Server.handler, hf]
  rfl

theorem normalise_slash : normalisePrefix "/" = "/" := by decide +kernel

theorem any_name_eq_findSub_isSome (r : String) : ∀ (roots : List Node),
    (roots.any fun n => n.name == r) = (findSub r roots).isSome := by
  intro roots
  induction roots with
  | nil => rfl
  | cons n rest ih =>
    simp only [List.any_cons, findSub, ih]
    cases n.name == r
    · rfl
    · rfl

theorem splitSlash_slash : (splitSlash ['/']).map String.ofList = ["", ""] := by decide +kernel

end Restli.Routing
