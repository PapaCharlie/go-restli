import Restli.Lib.Multipart
import Restli.Spec.Tunnel
import Restli.Proofs.Url
import Restli.Proofs.Bytes
/-! `Lib.Multipart`: reading back what the writer wrote, under a fresh boundary. -/
namespace Restli.Mime
open Restli Restli.Url Restli.TunnelSpec

/-- a byte of a class differs from any byte outside it: "no tchar is a colon" needs `validFieldByte 58 = false`
and nothing else -/
theorem ne_of_class {p : UInt8 → Bool} {c d : UInt8} (hc : p c = true) (hd : p d = false) : c ≠ d :=
  fun e => by rw [e, hd] at hc; cases hc

theorem isPrefixOf_append_self (a b : Bytes) : a.isPrefixOf (a ++ b) = true :=
  List.isPrefixOf_iff_prefix.2 (List.prefix_append a b)

theorem occursIn_iff_infix (pat s : Bytes) : occursIn pat s = true ↔ pat <:+: s := by
  induction s with
  | nil => simp [occursIn]
  | cons c cs ih => simp only [occursIn, Bool.or_eq_true, List.isPrefixOf_iff_prefix, ih, List.infix_cons_iff]

theorem prefix_of_not_mem {α} {P A B : List α} {x : α} (h : P <+: A ++ x :: B) (hx : x ∉ P) : P <+: A := by
  obtain ⟨t, ht⟩ := h
  rcases List.append_eq_append_iff.1 ht with ⟨a', rfl, _⟩ | ⟨c', rfl, hc⟩
  · exact List.prefix_append P a'
  · cases c' with
    | nil => simp
    | cons y ys =>
      injection hc with hy
      exact absurd (by simp [hy]) hx

/-- What reading back needs of the boundary: `NewReader` rejects an empty one; CR or LF in it is not
modelled; and the longest line it appears in, `--b--CRLF`, must fit the reader's 4096-byte buffer. -/
structure BoundaryOk (b : Bytes) : Prop where
  ne : b ≠ []
  noCR : cCR ∉ b
  noLF : cLF ∉ b
  fits : b.length + 6 ≤ 4096

def dashB (b : Bytes) : Bytes := dashDash ++ b
def nlDashB (b : Bytes) : Bytes := crlf ++ dashB b

theorem dashB_no_crlf (b : Bytes) (hb : BoundaryOk b) : cCR ∉ dashB b ∧ cLF ∉ dashB b := by
  simp only [dashB, dashDash, List.mem_append, List.mem_cons, not_or]
  exact ⟨⟨⟨by decide, by decide, by simp⟩, hb.noCR⟩, ⟨⟨by decide, by decide, by simp⟩, hb.noLF⟩⟩

theorem scanFrom_fresh (b : Bytes) (hb : BoundaryOk b) (content tail : Bytes)
    (hf : ¬ dashB b <:+: content) (ht : boundaryTerminated tail = true) :
    scanFrom (nlDashB b) (content ++ (nlDashB b ++ tail)) = some (content, nlDashB b ++ tail) := by
  induction content with
  | nil =>
    have e : [] ++ (nlDashB b ++ tail) = cCR :: (cLF :: dashB b ++ tail) := rfl
    rw [e, scanFrom, ← e, List.nil_append, isPrefixOf_append_self, List.drop_left, ht]
    rfl
  | cons a as ih =>
    -- a match here would put `LF--b` inside `as`: the CR that follows `as` is not in `LF--b`
    have hnp : (nlDashB b).isPrefixOf (a :: (as ++ (nlDashB b ++ tail))) = false := by
      rw [Bool.eq_false_iff, Ne, List.isPrefixOf_iff_prefix]
      intro h
      have hcr : cCR ∉ cLF :: dashB b := by
        rw [List.mem_cons, not_or]; exact ⟨by decide, (dashB_no_crlf b hb).1⟩
      have h2 : cLF :: dashB b <+: as := prefix_of_not_mem (List.cons_prefix_cons.1 h).2 hcr
      exact hf (List.infix_cons (List.IsInfix.trans ⟨[cLF], [], by simp⟩ h2.isInfix))
    rw [List.cons_append, scanFrom, hnp, ih (fun h => hf (List.infix_cons h))]
    rfl

theorem scanBody_fresh (b : Bytes) (hb : BoundaryOk b) (content tail : Bytes)
    (hf : occursIn (dashB b) content = false) (ht : boundaryTerminated tail = true) :
    scanBody (dashB b) (nlDashB b) (content ++ (nlDashB b ++ tail)) = some (content, nlDashB b ++ tail) := by
  have hf' : ¬ dashB b <:+: content := mt (occursIn_iff_infix _ _).2 (Bool.eq_false_iff.1 hf)
  have hnp : (dashB b).isPrefixOf (content ++ (nlDashB b ++ tail)) = false := by
    rw [Bool.eq_false_iff, Ne, List.isPrefixOf_iff_prefix]
    exact fun h => hf' (prefix_of_not_mem (x := cCR) h (dashB_no_crlf b hb).1).isInfix
  rw [scanBody, hnp, Bool.false_and]
  exact scanFrom_fresh b hb content tail hf' ht

theorem readSlice_crlf (l rest : Bytes) (h : cLF ∉ l) : readSlice (l ++ crlf ++ rest) = (l ++ crlf, rest, true) := by
  induction l with
  | nil => rfl
  | cons c cs ih =>
    have hc : (c == cLF) = false := beq_eq_false_iff_ne.2 fun e => h (by simp [e])
    have hcs : cLF ∉ cs := fun e => h (by simp [e])
    simp only [List.cons_append, readSlice, hc, ih hcs, Bool.false_eq_true, if_false]

theorem readLine_crlf (l rest : Bytes) (h : cLF ∉ l) : readLine (l ++ crlf ++ rest) = some (l, rest) := by
  have hne : (l ++ crlf ++ rest).isEmpty = false := by simp [crlf]
  rw [readLine, hne, readSlice_crlf l rest h]
  simp [crlf]

/-- what the writer may put into a part header so that the reader returns it unchanged -/
structure SimpleHeader (k v : Bytes) : Prop where
  kne : k ≠ []
  kvalid : k.all validFieldByte = true
  kcanon : canonLoop true k = k
  vne : v ≠ []
  vvalid : v.all validValueByte = true
  vhead : v.head? ≠ some cSP ∧ v.head? ≠ some cTAB
  vlast : v.getLast? ≠ some cSP ∧ v.getLast? ≠ some cTAB
  notCTE : k ≠ strB "Content-Transfer-Encoding"

/-- "no leading space or tab", as `readMIMEHeader` asks it of the first byte of a block or line … -/
theorem lwsp_beq {o : Option UInt8} (h : o ≠ some cSP ∧ o ≠ some cTAB) :
    (o == some cSP || o == some cTAB) = false := by
  simp [h.1, h.2]

/-- … and as `skipLWSPChar` / `trim` use it: there is nothing to drop -/
theorem dropLWSP_id (s : Bytes) (h : s.head? ≠ some cSP ∧ s.head? ≠ some cTAB) :
    s.dropWhile (fun c => c == cSP || c == cTAB) = s := by
  cases s with
  | nil => rfl
  | cons a as =>
    have h1 : a ≠ cSP := fun e => h.1 (e ▸ rfl)
    have h2 : a ≠ cTAB := fun e => h.2 (e ▸ rfl)
    exact List.dropWhile_cons_of_neg (by simp [h1, h2])

theorem trimWS_id (s : Bytes) (hh : s.head? ≠ some cSP ∧ s.head? ≠ some cTAB)
    (hl : s.getLast? ≠ some cSP ∧ s.getLast? ≠ some cTAB) : trimWS s = s := by
  simp only [trimWS]
  rw [dropLWSP_id s hh, dropLWSP_id s.reverse (by rwa [List.head?_reverse]), List.reverse_reverse]

theorem key_head (k : Bytes) (hk : ∀ c ∈ k, validFieldByte c = true) : k.head? ≠ some cSP ∧ k.head? ≠ some cTAB :=
  ⟨fun e => ne_of_class (hk _ (List.mem_of_head? e)) (d := cSP) (by decide +kernel) rfl,
    fun e => ne_of_class (hk _ (List.mem_of_head? e)) (d := cTAB) (by decide +kernel) rfl⟩

theorem readerKey_valid (k : Bytes) (hne : k ≠ []) (hk : ∀ c ∈ k, validFieldByte c = true) :
    readerKey k = some (canonLoop true k) := by
  have h2 : k.any (fun c => !validFieldByte c && c != cSP) = false := by
    rw [List.any_eq_false]; intro c hc; simp [hk c hc]
  have h3 : k.contains cSP = false := by
    rw [Bool.eq_false_iff, Ne, List.contains_iff_mem]
    exact fun hm => ne_of_class (hk _ hm) (d := cSP) (by decide +kernel) rfl
  simp only [readerKey, List.isEmpty_eq_false_iff.2 hne, h2, h3, Bool.false_eq_true, if_false]

theorem readHeaderLoop_blank (fuel : Nat) (rest : Bytes) (acc : List (Bytes × Bytes)) :
    readHeaderLoop (fuel + 1) (crlf ++ rest) acc = .ok acc rest := by
  have := readLine_crlf [] rest (by simp)
  rw [List.nil_append] at this
  rw [readHeaderLoop, this]
  rfl

theorem readHeaderLoop_field (k v rest : Bytes) (h : SimpleHeader k v) (fuel : Nat) (acc : List (Bytes × Bytes))
    (hrest : (rest.head? == some cSP || rest.head? == some cTAB) = false) :
    readHeaderLoop (fuel + 1) (k ++ [cColon, cSP] ++ v ++ crlf ++ rest) acc =
      readHeaderLoop fuel rest (acc ++ [(k, v)]) := by
  have hk : ∀ c ∈ k, validFieldByte c = true := List.all_eq_true.1 h.kvalid
  have hv : ∀ c ∈ v, validValueByte c = true := List.all_eq_true.1 h.vvalid
  have hline : readLine (k ++ [cColon, cSP] ++ v ++ crlf ++ rest) = some (k ++ [cColon, cSP] ++ v, rest) := by
    apply readLine_crlf
    simp only [List.mem_append, List.mem_cons, List.not_mem_nil, or_false, not_or]
    exact ⟨⟨fun hm => ne_of_class (hk _ hm) (d := cLF) (by decide +kernel) rfl, by decide, by decide⟩,
      fun hm => ne_of_class (hv _ hm) (d := cLF) (by decide +kernel) rfl⟩
  have hne : (k ++ [cColon, cSP] ++ v).isEmpty = false := by simp
  have hcolon : (k ++ [cColon, cSP] ++ v).contains cColon = true := by
    rw [List.contains_iff_mem]; simp
  -- the line starts with a byte of `k` and ends with the last byte of `v`: nothing to trim
  have hhead : (k ++ [cColon, cSP] ++ v).head? = k.head? := by
    obtain ⟨k0, ks, rfl⟩ := List.exists_cons_of_ne_nil h.kne; rfl
  have hlast : (k ++ [cColon, cSP] ++ v).getLast? = v.getLast? := by
    rw [List.getLast?_append, List.getLast?_eq_some_getLast h.vne, Option.some_or]
  have htrim := trimWS_id (k ++ [cColon, cSP] ++ v) (by rw [hhead]; exact key_head k hk) (by rw [hlast]; exact h.vlast)
  have hcut : cut cColon (k ++ [cColon, cSP] ++ v) = (k, cSP :: v, true) := by
    have := cut_append cColon k (cSP :: v) (fun hm => ne_of_class (hk _ hm) (d := cColon) (by decide +kernel) rfl)
    simpa using this
  have hkey : readerKey k = some k := by rw [readerKey_valid k h.kne hk, h.kcanon]
  have hval : (cSP :: v).any (fun x => !validValueByte x) = false := by
    simpa [show validValueByte cSP = true by decide] using hv
  have hdrop : (cSP :: v).dropWhile (fun x => x == cSP || x == cTAB) = v :=
    (List.dropWhile_cons_of_pos (by decide)).trans (dropLWSP_id v h.vhead)
  rw [readHeaderLoop, hline]
  simp only [hne, hcolon, hrest, htrim, hcut, hkey, hval, hdrop, Bool.not_true, Bool.false_eq_true, if_false]

theorem readHeader_simple (p : WPart) (rest : Bytes) (h : SimpleHeader p.key p.value) :
    readHeader (partHead p ++ rest) = .ok [(p.key, p.value)] rest := by
  have e : partHead p ++ rest = p.key ++ [cColon, cSP] ++ p.value ++ crlf ++ (crlf ++ rest) := by
    simp only [partHead, List.append_assoc]
  have hhead : (partHead p ++ rest).head? = p.key.head? := by
    rw [e]; obtain ⟨k0, ks, hk⟩ := List.exists_cons_of_ne_nil h.kne; rw [hk]; rfl
  -- two lines, and fuel for two: the second line alone is two bytes
  rw [readHeader, hhead, lwsp_beq (key_head p.key (List.all_eq_true.1 h.kvalid)), if_neg Bool.false_ne_true, e,
    readHeaderLoop_field _ _ _ h _ _ rfl, List.length_append]
  exact readHeaderLoop_blank _ rest _

/-- the reader's view of written parts -/
def asParts : List WPart → Parts
  | [] => .eof
  | p :: ps => .part [(p.key, p.value)] p.content (asParts ps)

/-- a part the reader returns unchanged under boundary `b` -/
structure GoodPart (b : Bytes) (p : WPart) : Prop where
  hdr : SimpleHeader p.key p.value
  fresh : occursIn (dashB b) p.content = false

theorem dashB_head (b : Bytes) : ∃ t, dashB b = cDash :: t := ⟨cDash :: b, rfl⟩

/-- a blank line: skipped before the first boundary line, and the separator between a part body and
the next boundary line -/
theorem nextPart_nl (b : Bytes) (fuel : Nat) (first : Bool) (rest : Bytes) :
    nextPart b (fuel + 1) crlf first false (crlf ++ rest) = nextPart b fuel crlf first (!first) rest := by
  -- the line is concrete (`--…` is no prefix of it whatever `b` is): both sides compute
  cases first <;> rfl

theorem writeRest_terminated (b : Bytes) (ps : List WPart) :
    ∃ tail, writeRest b ps = nlDashB b ++ tail ∧ boundaryTerminated tail = true := by
  cases ps with
  | nil => exact ⟨dashDash ++ crlf, by simp only [writeRest, nlDashB, dashB, List.append_assoc], rfl⟩
  | cons p ps =>
    exact ⟨crlf ++ (partHead p ++ (p.content ++ writeRest b ps)),
      by simp only [writeRest, nlDashB, dashB, List.append_assoc], rfl⟩

theorem nextPart_delim (b : Bytes) (hb : BoundaryOk b) (fuel : Nat) (first expect : Bool) (p : WPart)
    (hp : GoodPart b p) (ps : List WPart) :
    nextPart b (fuel + 1) crlf first expect (dashB b ++ crlf ++ (partHead p ++ (p.content ++ writeRest b ps))) =
      .part [(p.key, p.value)] p.content (nextPart b fuel crlf false false (writeRest b ps)) := by
  obtain ⟨tail, ht, htt⟩ := writeRest_terminated b ps
  have hs := readSlice_crlf (dashB b) (partHead p ++ (p.content ++ writeRest b ps)) (dashB_no_crlf b hb).2
  have hlen : ¬ ((dashB b ++ crlf).length > 4096) := by
    have := hb.fits
    simp [dashB, dashDash, crlf]; omega
  have hafter : skipLWSP crlf = crlf := rfl
  have hhdr := readHeader_simple p (p.content ++ writeRest b ps) hp.hdr
  have hcte : (([(p.key, p.value)] : List (Bytes × Bytes)).lookup (strB "Content-Transfer-Encoding")).isSome = false := by
    simp [List.lookup, beq_eq_false_iff_ne.2 (Ne.symm hp.hdr.notCTE)]
  have hscan := scanBody_fresh b hb p.content tail hp.fresh htt
  rw [← ht, nlDashB] at hscan
  have hc : (crlf == [cLF]) = false := by decide
  rw [nextPart]
  -- `← dashB.eq_1`: the `let dash` of `nextPart` is `dashB b`
  simp only [← dashB.eq_1 b, hs, hlen, isPrefixOf_append_self, List.drop_left, hafter, hhdr, hcte, hc, hscan,
    Bool.and_false, Bool.false_eq_true, if_false, Bool.true_and, beq_self_eq_true, if_true, Bool.not_true]
  simp

theorem nextPart_final (b : Bytes) (hb : BoundaryOk b) (fuel : Nat) (first expect : Bool) :
    nextPart b (fuel + 1) crlf first expect (dashB b ++ (dashDash ++ crlf)) = .eof := by
  have hs : readSlice (dashB b ++ (dashDash ++ crlf)) = (dashB b ++ (dashDash ++ crlf), [], true) := by
    have hn : cLF ∉ dashB b ++ dashDash := by
      rw [List.mem_append, not_or]; exact ⟨(dashB_no_crlf b hb).2, by decide⟩
    have := readSlice_crlf (dashB b ++ dashDash) [] hn
    rwa [List.append_nil, List.append_assoc] at this
  have hlen : ¬ ((dashB b ++ (dashDash ++ crlf)).length > 4096) := by
    have := hb.fits
    simp [dashB, dashDash, crlf]; omega
  have hafter : skipLWSP (dashDash ++ crlf) = dashDash ++ crlf := rfl
  have hfin : isFinalBoundary b crlf (dashB b ++ (dashDash ++ crlf)) = true := by
    have h3 : skipLWSP crlf = crlf := rfl
    simp only [isFinalBoundary, ← dashB.eq_1 b, ← List.append_assoc, isPrefixOf_append_self, List.drop_left, h3]
    decide
  have h1 : (dashDash ++ crlf == [cLF]) = false := by decide
  have h2 : (dashDash ++ crlf == crlf) = false := by decide
  rw [nextPart]
  simp only [← dashB.eq_1 b, hs, hlen, isPrefixOf_append_self, List.drop_left, hafter, h1, h2, hfin, Bool.and_false,
    Bool.false_eq_true, if_false, Bool.not_true, Bool.false_and, if_true, Bool.or_false, decide_false]

/-- after a part body, or at the very start when there are no parts: the blank line, the remaining
parts and the closing line. Fuel: every line read is at least one byte, so the bytes left (and `k`
to spare) are enough. -/
theorem nextPart_writeRest (b : Bytes) (hb : BoundaryOk b) (first : Bool) (ps : List WPart)
    (hps : ∀ p ∈ ps, GoodPart b p) (k : Nat) :
    nextPart b ((writeRest b ps).length + k) crlf first false (writeRest b ps) = asParts ps := by
  induction ps generalizing k first with
  | nil =>
    have e : (writeRest b []).length + k = ((dashB b ++ (dashDash ++ crlf)).length + k) + 2 := by
      simp only [writeRest, dashB, crlf, List.length_append, List.length_cons, List.length_nil]; omega
    have e' : writeRest b [] = crlf ++ (dashB b ++ (dashDash ++ crlf)) := by simp [writeRest, dashB]
    rw [e, e', nextPart_nl, nextPart_final b hb]
    rfl
  | cons p ps ih =>
    have e : (writeRest b (p :: ps)).length + k =
        ((writeRest b ps).length + ((dashB b ++ crlf ++ partHead p ++ p.content).length + k)) + 2 := by
      simp only [writeRest, dashB, crlf, List.length_append, List.length_cons, List.length_nil]; omega
    have e' : writeRest b (p :: ps) = crlf ++ (dashB b ++ crlf ++ (partHead p ++ (p.content ++ writeRest b ps))) := by
      simp [writeRest, dashB]
    rw [e, e', nextPart_nl, nextPart_delim b hb _ _ _ p (hps p (by simp)), ih false (fun q hq => hps q (by simp [hq]))]
    rfl

/-- **reading back what was written**: with a boundary that occurs in no part, `multipart.Reader`
returns exactly the parts `multipart.Writer` was given -/
theorem readParts_writeParts (b : Bytes) (hb : BoundaryOk b) (ps : List WPart) (hps : ∀ p ∈ ps, GoodPart b p) :
    readParts b (writeParts b ps) = asParts ps := by
  have h1 : b.contains cCR = false := by simpa using hb.noCR
  have h2 : b.contains cLF = false := by simpa using hb.noLF
  simp only [readParts, h1, h2, List.isEmpty_eq_false_iff.2 hb.ne, Bool.false_eq_true, if_false, Bool.or_self]
  cases ps with
  | nil =>
    -- `Close()` without parts: a blank preamble line, then the closing line
    exact nextPart_writeRest b hb true [] hps 2
  | cons p ps =>
    have e : writeParts b (p :: ps) = dashB b ++ crlf ++ (partHead p ++ (p.content ++ writeRest b ps)) := by
      simp [writeParts, dashB]
    have ef : (writeParts b (p :: ps)).length + 2 =
        ((writeRest b ps).length + ((dashB b ++ crlf ++ partHead p ++ p.content).length + 1)) + 1 := by
      simp only [writeParts, dashB, List.length_append]; omega
    rw [ef, e, nextPart_delim b hb _ _ _ p (hps p (by simp)),
      nextPart_writeRest b hb false ps (fun q hq => hps q (by simp [hq]))]
    rfl

end Restli.Mime
