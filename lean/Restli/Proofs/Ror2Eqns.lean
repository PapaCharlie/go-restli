import Restli.Model.Ror2Reader
import Restli.Proofs.Bytes
/-! The reader functions of Model/Ror2Reader.lean pass on the outcome of every call they make by a
five-way `match` written out at each call. Here each function is stated once more with that match
replaced by `Res.bind`, so that a property of the reader needs one rule for `bind` instead of a
case split per call: `f_eq` for the functions without fuel, `f_succ` for a function at `fuel + 1`,
`readTy_map`/`readTy_ref` for the two cases of `readTy (fuel + 1)` that call on (`.prim` and `.arr`
unfold to `readPrim`/`readArray` by `rw [readTy]`). -/
namespace Restli.Codec

/-- how every reader function passes on the outcome of a call it makes: only `.ok` continues -/
def Res.bind {α β : Type} (r : Res α) (f : α → RS → Res β) : Res β :=
  match r with
  | .ok v s => f v s
  | .err e => .err e
  | .panic => .panic
  | .fuel => .fuel
  | .unmodelled => .unmodelled

theorem Res.bind_ok {α β : Type} {r : Res α} {f : α → RS → Res β} {v : β} {s : RS}
    (h : r.bind f = .ok v s) : ∃ x s₀, r = .ok x s₀ ∧ f x s₀ = .ok v s := by
  cases r with
  | ok x s₀ => exact ⟨x, s₀, rfl, h⟩
  | _ => cases h

theorem readString_eq (c : RCfg) (s : RS) :
    readString c s = (readPrimTok s).bind fun t s' =>
      match tokString c.plus t with
      | some b => .ok b s'
      | none => .err .syntax := by
  unfold readString
  cases readPrimTok s <;> rfl

theorem readPrim_eq (c : RCfg) (p : Prim) (s : RS) :
    readPrim c p s = (readPrimTok s).bind fun t s' =>
      match tokPrim c.plus p t with
      | .ok v => .ok v s'
      | .err => .err .syntax
      | .unmodelled => .unmodelled := by
  unfold readPrim
  cases readPrimTok s <;> rfl

theorem readTy_map (c : RCfg) (fuel : Nat) (scope : List Seg) (t : Ty) (s : RS) :
    readTy c (fuel + 1) scope (.map t) s =
      (readMap c fuel scope (.mapOf t) s).bind fun r s' => .ok (.map r.1) s' := by
  simp only [readTy]
  cases readMap c fuel scope (.mapOf t) s <;> rfl

theorem readTy_ref (c : RCfg) (fuel : Nat) (scope : List Seg) (n : TName) (s : RS) :
    readTy c (fuel + 1) scope (.ref n) s =
      match c.env.find n with
      | some (.typeref p) => readPrim c p s
      | some (.enum syms) => (readString c s).bind fun b s' =>
          .ok (.enum (match syms.idxOf? b with | some i => (i : Int) + 1 | none => 0)) s'
      | some (.fixed size) => (readString c s).bind fun b s' =>
          if b.length = size then .ok (.fixed b) s' else .err .fixed
      | some (.record _ own) =>
        let fields := allFields c.env (includeFuel c.env) n
        (readMap c fuel scope (.record fields) s).bind fun r s' =>
          match finishRecord c.env c.tracker scope (s.start && !c.query) fields own r.1 r.2 s'.missing with
          | .panic => .panic
          | .missingErr ps v => .err (.missing ps v)
          | .ok v m => .ok v { s' with missing := m }
      | some (.union hasNull members) =>
        (readMap c fuel scope (.union members) s).bind fun r s' =>
          if !hasNull && r.2.isEmpty then .err .union else .ok (.union r.1) s'
      | none => .err .syntax := by
  rw [readTy]
  cases c.env.find n with
  | none => rfl
  | some d =>
    cases d with
    | typeref p => rfl
    | enum syms => dsimp only; cases readString c s <;> rfl
    | fixed size => dsimp only; cases readString c s <;> rfl
    | record incs own =>
      dsimp only
      cases readMap c fuel scope (.record (allFields c.env (includeFuel c.env) n)) s <;> rfl
    | union hasNull members => dsimp only; cases readMap c fuel scope (.union members) s <;> rfl

theorem readMapLoop_succ (c : RCfg) (fuel : Nat) (scope : List Seg) (mode : MapMode)
    (acc : List (Bytes × Value)) (seen : List Bytes) (s : RS) :
    readMapLoop c (fuel + 1) scope mode acc seen s =
      match readFieldName s.rest with
      | .bad => .err .syntax
      | .panic => .panic
      | .close => .ok (acc, seen) (s.adv (s.rest.drop 1))
      | .name raw after =>
        match (if raw == Gen.emptyMarker then some [] else c.decode raw) with
        | none => .err .syntax
        | some k =>
          match c.tracker.check (scope ++ [.key k]) with
          | .panic => .panic
          | .yes => .err (.excluded (scopeString (scope ++ [.key k])))
          | .no =>
            (readMapCallback c fuel (scope ++ [.key k]) mode acc seen k (s.adv after)).bind fun acc' s2 =>
              match s2.rest with
              | [] => .err .syntax
              | d :: r2 =>
                if d == 44 then readMapLoop c fuel scope mode acc' (seen ++ [k]) (s2.adv r2)
                else if d == 41 then .ok (acc', seen ++ [k]) (s2.adv r2)
                else .err .syntax := by
  rw [readMapLoop]
  cases readFieldName s.rest with
  | name raw after =>
    dsimp only
    cases (if raw == Gen.emptyMarker then some [] else c.decode raw) with
    | none => rfl
    | some k =>
      dsimp only
      cases c.tracker.check (scope ++ [.key k]) with
      | no => dsimp only; cases readMapCallback c fuel (scope ++ [.key k]) mode acc seen k (s.adv after) <;> rfl
      | _ => rfl
  | _ => rfl

theorem readMapCallback_succ (c : RCfg) (fuel : Nat) (scope : List Seg) (mode : MapMode)
    (acc : List (Bytes × Value)) (seen : List Bytes) (k : Bytes) (s : RS) :
    readMapCallback c (fuel + 1) scope mode acc seen k s =
      match mode with
      | .record fields =>
        (match findField fields k with
        | some f => (readTy c fuel scope f.ty s).bind fun v s2 => .ok (setEntry acc k v) s2
        | none => (skip s).bind fun _ s2 => .ok acc s2)
      | .mapOf t => (readTy c fuel scope t s).bind fun v s2 => .ok (setEntry acc k v) s2
      | .union members =>
        if !seen.isEmpty then .err .union
        else match members.lookup k with
          | some t => (readTy c fuel scope t s).bind fun v s2 => .ok (setEntry acc k v) s2
          | none => .err .union := by
  cases mode with
  | record fields =>
    rw [readMapCallback]
    dsimp only
    cases findField fields k with
    | some f => dsimp only; cases readTy c fuel scope f.ty s <;> rfl
    | none => dsimp only; cases skip s <;> rfl
  | mapOf t => rw [readMapCallback]; dsimp only; cases readTy c fuel scope t s <;> rfl
  | union members =>
    rw [readMapCallback]
    dsimp only
    cases members.lookup k with
    | some t => dsimp only; cases readTy c fuel scope t s <;> rfl
    | none => rfl

theorem readArray_succ (c : RCfg) (fuel : Nat) (scope : List Seg) (t : Ty) (s : RS) :
    readArray c (fuel + 1) scope t s =
      if !atArray s then .err .syntax
      else
        match (s.rest.drop Gen.listPrefix.length) with
        | [] => .panic
        | d :: r =>
          if d == 41 then .ok (.arr []) ((s.adv (s.rest.drop Gen.listPrefix.length)).adv r)
          else (readArrayLoop c fuel scope t 0 (s.adv (s.rest.drop Gen.listPrefix.length))).bind
            fun vs s2 => .ok (.arr vs) s2 := by
  rw [readArray]
  dsimp only
  cases readArrayLoop c fuel scope t 0 (s.adv (s.rest.drop Gen.listPrefix.length)) <;> rfl

theorem readArrayLoop_succ (c : RCfg) (fuel : Nat) (scope : List Seg) (t : Ty) (index : Nat) (s : RS) :
    readArrayLoop c (fuel + 1) scope t index s =
      (readTy c fuel (scope ++ [.idx index]) t s).bind fun v s2 =>
        match s2.rest with
        | [] => .err .syntax
        | d :: r2 =>
          if d == 44 then
            (readArrayLoop c fuel scope t (index + 1) (s2.adv r2)).bind fun vs s3 => .ok (v :: vs) s3
          else if d == 41 then .ok [v] (s2.adv r2)
          else .err .syntax := by
  rw [readArrayLoop]
  cases readTy c fuel (scope ++ [.idx index]) t s with
  | ok v s2 =>
    dsimp only [Res.bind]
    cases s2.rest with
    | nil => rfl
    | cons d r2 => dsimp only; cases readArrayLoop c fuel scope t (index + 1) (s2.adv r2) <;> rfl
  | _ => rfl

end Restli.Codec
