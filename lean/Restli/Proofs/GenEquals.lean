import Restli.Model.GenEquals
import Restli.Proofs.Equals
/-! Schema-level Equals / ComputeHash contract: for every schema, every type, every pair of
values, `Equals` true implies equal `ComputeHash`; `Equals` is symmetric and transitive.

`valueEq` and `valueEqZ` are one functor (`eqStep`: one level of the recursion, the recursive call
and the test at primitive leaves as parameters) iterated over the fuel. Everything a positive verdict
says is in `namedEqG_cases` / `eqStep_cases`; each theorem is then an induction over the fuel whose
step goes through the cases, discharging the membership-restricted hypotheses of the library lemmas
(`Proofs/Equals.lean`) with the induction hypothesis. -/
namespace Restli.Codec
open Restli.Fnv Restli.Equals Restli.EqualsSpec

mutual
/-- values whose maps are genuine maps (distinct keys), at every depth -/
def MapsOK : Value → Prop
  | .record fs => MapsOKKvs fs
  | .union ms => MapsOKKvs ms
  | .map es => KeysNodup es ∧ MapsOKKvs es
  | .arr vs => MapsOKList vs
  | _ => True
def MapsOKKvs : List (Bytes × Value) → Prop
  | [] => True
  | (_, v) :: rest => MapsOK v ∧ MapsOKKvs rest
def MapsOKList : List Value → Prop
  | [] => True
  | v :: rest => MapsOK v ∧ MapsOKList rest
end

theorem mapsOKKvs_mem (l : List (Bytes × Value)) (h : MapsOKKvs l) : ∀ e ∈ l, MapsOK e.2 := by
  induction l with
  | nil => nofun
  | cons kv rest ih =>
    intro e he
    rcases List.mem_cons.1 he with rfl | he
    · exact h.1
    · exact ih h.2 e he

theorem mapsOKList_mem (l : List Value) (h : MapsOKList l) : ∀ v ∈ l, MapsOK v := by
  induction l with
  | nil => nofun
  | cons x rest ih =>
    intro v hv
    rcases List.mem_cons.1 hv with rfl | hv
    · exact h.1
    · exact ih h.2 v hv

theorem lookup_mapsOK (fs : List (Bytes × Value)) (h : MapsOKKvs fs) (k : Bytes) (v : Value)
    (hl : fs.lookup k = some v) : MapsOK v :=
  mapsOKKvs_mem fs h _ (lookup_mem hl)

/-- `namedEq` and `namedEqZ` differ in the test at primitive leaves only -/
def namedEqG (leaf : Prim → Value → Value → Bool) (env : Env) (eqf : Ty → Value → Value → Bool)
    (n : TName) (a b : Value) : Bool :=
  match env.find n, a, b with
  | some (.typeref p), a, b => leaf p a b
  | some (.enum syms), .enum x, .enum y =>
    decide (1 ≤ x ∧ x ≤ syms.length) && decide (1 ≤ y ∧ y ≤ syms.length) && x == y
  | some (.fixed _), .fixed x, .fixed y => x == y
  | some (.record _ _), .record xs, .record ys =>
    (allFields env (includeFuel env) n).all (fun fld =>
      optEqV (eqf fld.ty) (xs.lookup fld.name) (ys.lookup fld.name))
  | some (.union _ members), .union xs, .union ys =>
    members.all (fun m => optEqV (eqf m.2) (xs.lookup m.1) (ys.lookup m.1))
  | _, _, _ => false

/-- the body of `valueEq` / `valueEqZ` at positive fuel, the recursive call a parameter -/
def eqStep (leaf : Prim → Value → Value → Bool) (env : Env) (eqf : Ty → Value → Value → Bool)
    (ty : Ty) (a b : Value) : Bool :=
  match ty, a, b with
  | .prim p, a, b => leaf p a b
  | .arr t, .arr xs, .arr ys => genericArray (eqf t) xs ys
  | .map t, .map xs, .map ys => genericMap (eqf t) xs ys
  | .ref n, a, b => namedEqG leaf env eqf n a b
  | _, _, _ => false

/- `rfl`: `namedEqG`/`eqStep` repeat the bodies of `namedEq(Z)` and of `valueEq(Z)` at `f + 1` clause by
clause, so both sides unfold to the same `match`; a clause changed on one side only breaks these two lines. -/
theorem valueEq_succ (env : Env) (f : Nat) : valueEq env (f + 1) = eqStep primEq env (valueEq env f) := rfl
theorem valueEqZ_succ (env : Env) (f : Nat) : valueEqZ env (f + 1) = eqStep primEqZ env (valueEqZ env f) := rfl

/-- a slot (field or member) of two structs: both unset, or both set to `R`-related values -/
def SlotRel (R : Ty → Value → Value → Prop) (xs ys : List (Bytes × Value)) (k : Bytes) (t : Ty) : Prop :=
  (xs.lookup k = none ∧ ys.lookup k = none) ∨
    ∃ x y, xs.lookup k = some x ∧ ys.lookup k = some y ∧ R t x y

variable {leaf leaf' : Prim → Value → Value → Bool} {env : Env} {eqf eqf' : Ty → Value → Value → Bool}
  {R : Ty → Value → Value → Prop} {xs ys : List (Bytes × Value)} {k : Bytes} {t : Ty} {n : TName}

theorem optEqV_slot (hx : MapsOKKvs xs) (hy : MapsOKKvs ys)
    (ih : ∀ t x y, MapsOK x → MapsOK y → eqf t x y = true → R t x y) (k : Bytes) (t : Ty)
    (h : optEqV (eqf t) (xs.lookup k) (ys.lookup k) = true) : SlotRel R xs ys k t := by
  unfold SlotRel
  cases hxk : xs.lookup k <;> cases hyk : ys.lookup k <;> rw [hxk, hyk] at h
  · exact .inl ⟨rfl, rfl⟩
  · cases h
  · cases h
  · exact .inr ⟨_, _, rfl, rfl, ih t _ _ (lookup_mapsOK xs hx k _ hxk) (lookup_mapsOK ys hy k _ hyk) h⟩

/-- What a positive verdict of a named type's `Equals` says, case by case; `ih` is what is known of
the field equality on genuine-map values, and reaches the cases already applied to the slots. -/
theorem namedEqG_cases {motive : Value → Value → Prop}
    (ih : ∀ t x y, MapsOK x → MapsOK y → eqf t x y = true → R t x y)
    (typeref : ∀ p a b, env.find n = some (.typeref p) → leaf p a b = true → motive a b)
    (enum : ∀ syms (x : Int), env.find n = some (.enum syms) → 1 ≤ x ∧ x ≤ syms.length →
      motive (.enum x) (.enum x))
    (fixed : ∀ size x, env.find n = some (.fixed size) → motive (.fixed x) (.fixed x))
    (record : ∀ incs own xs ys, env.find n = some (.record incs own) →
      (∀ fld ∈ allFields env (includeFuel env) n, SlotRel R xs ys fld.name fld.ty) →
      motive (.record xs) (.record ys))
    (union : ∀ hasNull members xs ys, env.find n = some (.union hasNull members) →
      (∀ m ∈ members, SlotRel R xs ys m.1 m.2) → motive (.union xs) (.union ys))
    {a b : Value} (ha : MapsOK a) (hb : MapsOK b) (h : namedEqG leaf env eqf n a b = true) :
    motive a b := by
  unfold namedEqG at h
  split at h
  · next p hfind => exact typeref p _ _ hfind h
  · next syms x y hfind =>
    simp only [Bool.and_eq_true, decide_eq_true_eq, beq_iff_eq] at h
    obtain ⟨⟨hx, _⟩, rfl⟩ := h
    exact enum syms x hfind hx
  · next x y hfind => cases eq_of_beq h; exact fixed _ x hfind
  · next xs ys hfind =>
    exact record _ _ xs ys hfind fun fld hfld =>
      optEqV_slot ha hb ih _ _ (List.all_eq_true.1 h fld hfld)
  · next members xs ys hfind =>
    exact union _ members xs ys hfind fun m hm =>
      optEqV_slot ha hb ih _ _ (List.all_eq_true.1 h m hm)
  · cases h

/-- The same for one level of `Equals` at a type: sub-values reach the cases with the induction
hypothesis applied. -/
theorem eqStep_cases {motive : Ty → Value → Value → Prop}
    (ih : ∀ t x y, MapsOK x → MapsOK y → eqf t x y = true → R t x y)
    (prim : ∀ p a b, leaf p a b = true → motive (.prim p) a b)
    (arr : ∀ t xs ys, ArrRel (eqf t) xs ys → (∀ x ∈ xs, ∀ y ∈ ys, eqf t x y = true → R t x y) →
      motive (.arr t) (.arr xs) (.arr ys))
    (map : ∀ t xs ys, KeysNodup xs → KeysNodup ys → MapRel (eqf t) xs ys →
      (∀ x ∈ xs, ∀ y ∈ ys, eqf t x.2 y.2 = true → R t x.2 y.2) → motive (.map t) (.map xs) (.map ys))
    (ref : ∀ n a b, MapsOK a → MapsOK b → namedEqG leaf env eqf n a b = true → motive (.ref n) a b)
    {ty : Ty} {a b : Value} (ha : MapsOK a) (hb : MapsOK b) (h : eqStep leaf env eqf ty a b = true) :
    motive ty a b := by
  unfold eqStep at h
  split at h
  · exact prim _ _ _ h
  · next t xs ys =>
    exact arr t xs ys ((genericArray_iff _ xs ys).1 h) fun x hx y hy =>
      ih t x y (mapsOKList_mem xs ha x hx) (mapsOKList_mem ys hb y hy)
  · next t xs ys =>
    exact map t xs ys ha.1 hb.1 ((genericMap_iff _ xs ys ha.1 hb.1).1 h) fun x hx y hy =>
      ih t x.2 y.2 (mapsOKKvs_mem xs ha.2 x hx) (mapsOKKvs_mem ys hb.2 y hy)
  · exact ref _ _ _ ha hb h
  · cases h

theorem primEq_cases {p : Prim} {a b : Value} (h : primEq p a b = true) :
    a = b ∨
    (∃ x y, p = .f32 ∧ a = .f32 x ∧ b = .f32 y ∧ floatEq32 (UInt32.ofNat x) (UInt32.ofNat y) = true) ∨
    (∃ x y, p = .f64 ∧ a = .f64 x ∧ b = .f64 y ∧ floatEq64 (UInt64.ofNat x) (UInt64.ofNat y) = true) := by
  unfold primEq at h
  split at h
  · exact .inl (congrArg _ (eq_of_beq h))
  · exact .inl (congrArg _ (eq_of_beq h))
  · exact .inl (congrArg _ (eq_of_beq h))
  · exact .inl (congrArg _ (eq_of_beq h))
  · exact .inl (congrArg _ (eq_of_beq h))
  · exact .inr (.inl ⟨_, _, rfl, rfl, rfl, h⟩)
  · exact .inr (.inr ⟨_, _, rfl, rfl, rfl, h⟩)
  · cases h

theorem primEq_hash (P : Params) (p : Prim) (a b : Value) (h : primEq p a b = true) (h0 : Hash) :
    primHash P h0 p a = primHash P h0 p b := by
  rcases primEq_cases h with rfl | ⟨x, y, rfl, rfl, rfl, e⟩ | ⟨x, y, rfl, rfl, rfl, e⟩
  · rfl
  · exact congrArg (addUint32 P h0) ((floatEq32_iff _ _).1 e).2.2
  · exact congrArg (addUint64 P h0) ((floatEq64_iff _ _).1 e).2.2

theorem primEq_symm (p : Prim) (a b : Value) (h : primEq p a b = true) : primEq p b a = true := by
  rcases primEq_cases h with rfl | ⟨x, y, rfl, rfl, rfl, e⟩ | ⟨x, y, rfl, rfl, rfl, e⟩
  · exact h
  · exact floatEq32_symm e
  · exact floatEq64_symm e

theorem primEq_trans (p : Prim) (a b c : Value) (h₁ : primEq p a b = true) (h₂ : primEq p b c = true) :
    primEq p a c = true := by
  rcases primEq_cases h₁ with rfl | ⟨x, y, rfl, rfl, rfl, e₁⟩ | ⟨x, y, rfl, rfl, rfl, e₁⟩
  · exact h₂
  · rcases primEq_cases h₂ with rfl | ⟨_, z, _, hy, rfl, e₂⟩ | ⟨_, _, hp, _⟩
    · exact h₁
    · cases hy; exact floatEq32_trans e₁ e₂
    · cases hp
  · rcases primEq_cases h₂ with rfl | ⟨_, _, hp, _⟩ | ⟨_, z, _, hy, rfl, e₂⟩
    · exact h₁
    · cases hp
    · cases hy; exact floatEq64_trans e₁ e₂

theorem namedEqG_typeref {p : Prim} (h : env.find n = some (.typeref p)) (a b : Value) :
    namedEqG leaf env eqf n a b = leaf p a b := by
  unfold namedEqG; rw [h]

theorem namedEqG_enum_self {syms : List Bytes} (h : env.find n = some (.enum syms)) {x : Int}
    (hx : 1 ≤ x ∧ x ≤ syms.length) : namedEqG leaf env eqf n (.enum x) (.enum x) = true := by
  unfold namedEqG; rw [h]
  show (decide _ && decide _ && x == x) = true
  rw [decide_eq_true hx, beq_self_eq_true]; rfl

theorem namedEqG_fixed_self {size : Nat} (h : env.find n = some (.fixed size)) (x : Bytes) :
    namedEqG leaf env eqf n (.fixed x) (.fixed x) = true := by
  unfold namedEqG; rw [h]
  exact beq_self_eq_true x

theorem namedEqG_record {incs : List TName} {own : List Field} (h : env.find n = some (.record incs own))
    (xs : List (Bytes × Value)) (c : Value) :
    namedEqG leaf env eqf n (.record xs) c =
      match c with
      | .record ys => (allFields env (includeFuel env) n).all (fun fld =>
          optEqV (eqf fld.ty) (xs.lookup fld.name) (ys.lookup fld.name))
      | _ => false := by
  unfold namedEqG; rw [h]
  cases c <;> rfl

theorem namedEqG_union {hasNull : Bool} {members : List (Bytes × Ty)}
    (h : env.find n = some (.union hasNull members)) (xs : List (Bytes × Value)) (c : Value) :
    namedEqG leaf env eqf n (.union xs) c =
      match c with
      | .union ys => members.all (fun m => optEqV (eqf m.2) (xs.lookup m.1) (ys.lookup m.1))
      | _ => false := by
  unfold namedEqG; rw [h]
  cases c <;> rfl

theorem SlotRel.optEqV_eq_true (h : SlotRel (fun t x y => eqf t x y = true) xs ys k t) :
    optEqV (eqf t) (xs.lookup k) (ys.lookup k) = true := by
  rcases h with ⟨hx, hy⟩ | ⟨x, y, hx, hy, e⟩ <;> rw [hx, hy]
  · rfl
  · exact e

theorem namedEqG_mono
    (hl : ∀ p a b, leaf p a b = true → leaf' p a b = true)
    (ih : ∀ t x y, MapsOK x → MapsOK y → eqf t x y = true → eqf' t x y = true)
    (n : TName) (a b : Value) (ha : MapsOK a) (hb : MapsOK b)
    (h : namedEqG leaf env eqf n a b = true) : namedEqG leaf' env eqf' n a b = true := by
  refine namedEqG_cases (motive := fun a b => namedEqG leaf' env eqf' n a b = true) ih
    ?_ ?_ ?_ ?_ ?_ ha hb h
  · intro p a b hfind e
    rw [namedEqG_typeref hfind]; exact hl p a b e
  · intro syms x hfind hx
    exact namedEqG_enum_self hfind hx
  · intro size x hfind
    exact namedEqG_fixed_self hfind x
  · intro incs own xs ys hfind hslots
    simp only [namedEqG_record hfind]
    exact List.all_eq_true.2 fun fld hfld => (hslots fld hfld).optEqV_eq_true
  · intro hasNull members xs ys hfind hslots
    simp only [namedEqG_union hfind]
    exact List.all_eq_true.2 fun m hm => (hslots m hm).optEqV_eq_true

theorem eqStep_mono
    (hl : ∀ p a b, leaf p a b = true → leaf' p a b = true)
    (ih : ∀ t x y, MapsOK x → MapsOK y → eqf t x y = true → eqf' t x y = true)
    (ty : Ty) (a b : Value) (ha : MapsOK a) (hb : MapsOK b)
    (h : eqStep leaf env eqf ty a b = true) : eqStep leaf' env eqf' ty a b = true := by
  refine eqStep_cases (motive := fun ty a b => eqStep leaf' env eqf' ty a b = true) ih
    ?_ ?_ ?_ ?_ ha hb h
  · intro p a b e
    exact hl p a b e
  · intro t xs ys hrel hm
    exact (genericArray_iff _ xs ys).2 (ArrRel.mono hrel hm)
  · intro t xs ys hx hy hrel hm
    exact (genericMap_iff _ xs ys hx hy).2 (MapRel.mono hrel hm)
  · intro n a b ha hb e
    exact namedEqG_mono hl ih n a b ha hb e

theorem foldl_congr {α β : Type} (F G : β → α → β) (l : List α) :
    ∀ (b : β), (∀ x ∈ l, ∀ b, F b x = G b x) → l.foldl F b = l.foldl G b := by
  induction l with
  | nil => intro _ _; rfl
  | cons x rest ih =>
    intro b h
    rw [List.foldl_cons, List.foldl_cons, h x List.mem_cons_self b]
    exact ih _ fun y hy => h y (List.mem_cons_of_mem _ hy)

theorem SlotRel.hashSlot_eq {hf : Ty → Hash → Value → Hash} (h : SlotRel (fun t x y => ∀ h, hf t h x = hf t h y) xs ys k t) (h0 : Hash) :
    hashSlot hf xs h0 k t = hashSlot hf ys h0 k t := by
  unfold hashSlot
  rcases h with ⟨hx, hy⟩ | ⟨x, y, hx, hy, e⟩ <;> rw [hx, hy]
  exact e h0

/-- the record hash visits exactly the flattened field list -/
theorem recHash_congr (env : Env) (P : Params) (hf : Ty → Hash → Value → Hash) (xs ys : List (Bytes × Value))
    (g : Nat) : ∀ (n : TName),
      (∀ fld ∈ allFields env g n, ∀ h, hashSlot hf xs h fld.name fld.ty = hashSlot hf ys h fld.name fld.ty) →
      recHash env P hf g n xs = recHash env P hf g n ys := by
  induction g with
  | zero => intro _ _; rfl
  | succ g ih =>
    intro n hall
    simp only [recHash]
    simp only [allFields] at hall
    split
    · next incs own hfind =>
      simp only [hfind] at hall
      rw [foldl_congr _ (fun h inc => add P h (recHash env P hf g inc ys)) incs P.init fun inc hi b =>
        congrArg (add P b) (ih inc fun fld hfld =>
          hall fld (List.mem_append_left _ (List.mem_flatMap.2 ⟨inc, hi, hfld⟩)))]
      exact foldl_congr _ _ own _ fun fld hfld => hall fld (List.mem_append_right _ hfld)
    · rfl

theorem namedEqG_hash_congr (env : Env) (P : Params) {hf : Ty → Hash → Value → Hash}
    (ih : ∀ t x y, MapsOK x → MapsOK y → eqf t x y = true → ∀ h, hf t h x = hf t h y)
    (n : TName) (a b : Value) (ha : MapsOK a) (hb : MapsOK b)
    (he : namedEqG primEq env eqf n a b = true) : namedHash env P hf n a = namedHash env P hf n b := by
  refine namedEqG_cases (motive := fun a b => namedHash env P hf n a = namedHash env P hf n b) ih
    ?_ ?_ ?_ ?_ ?_ ha hb he
  · intro p a b hfind e
    simp only [namedHash, hfind]
    exact primEq_hash P p a b e _
  · intro syms x hfind hx
    rfl
  · intro size x hfind
    rfl
  · intro incs own xs ys hfind hslots
    simp only [namedHash, hfind]
    exact recHash_congr env P hf xs ys _ n fun fld hfld => (hslots fld hfld).hashSlot_eq
  · intro hasNull members xs ys hfind hslots
    simp only [namedHash, hfind]
    exact foldl_congr _ _ members _ fun m hm h => (hslots m hm).hashSlot_eq h

/-- two values the generated `Equals` accepts are added to any running hash identically -/
theorem valueEq_hashInto_congr (env : Env) (P : Params) (f : Nat) : ∀ (ty : Ty) (a b : Value), MapsOK a → MapsOK b →
    valueEq env f ty a b = true → ∀ h, hashInto env P f ty h a = hashInto env P f ty h b := by
  induction f with
  | zero => intro _ _ _ _ _ he; cases he
  | succ f ih =>
    intro ty a b ha hb he
    rw [valueEq_succ] at he
    refine eqStep_cases
      (motive := fun ty a b => ∀ h, hashInto env P (f + 1) ty h a = hashInto env P (f + 1) ty h b)
      ih ?_ ?_ ?_ ?_ ha hb he
    · intro p a b e h
      exact primEq_hash P p a b e h
    · intro t xs ys hrel ihm h
      exact hrel.addArray_eq _ ihm h
    · intro t xs ys hx hy hrel ihm h
      exact MapRel.addMap_eq hrel hx hy P _ ihm h
    · intro n a b ha hb e h
      exact congrArg (add P h) (namedEqG_hash_congr env P ih n a b ha hb e)

theorem SlotRel.flip (h : SlotRel R xs ys k t) : SlotRel (fun t x y => R t y x) ys xs k t :=
  h.imp And.symm fun ⟨x, y, hx, hy, r⟩ => ⟨y, x, hy, hx, r⟩

theorem SlotRel.imp {R' : Ty → Value → Value → Prop} (h : SlotRel R xs ys k t)
    (hR : ∀ x y, xs.lookup k = some x → ys.lookup k = some y → R t x y → R' t x y) :
    SlotRel R' xs ys k t :=
  Or.imp id (fun ⟨x, y, hx, hy, r⟩ => ⟨x, y, hx, hy, hR x y hx hy r⟩) h

theorem namedEqG_symm (env : Env)
    (ih : ∀ t x y, MapsOK x → MapsOK y → eqf t x y = true → eqf t y x = true)
    (n : TName) (a b : Value) (ha : MapsOK a) (hb : MapsOK b)
    (he : namedEqG primEq env eqf n a b = true) : namedEqG primEq env eqf n b a = true := by
  refine namedEqG_cases (motive := fun a b => namedEqG primEq env eqf n b a = true) ih
    ?_ ?_ ?_ ?_ ?_ ha hb he
  · intro p a b hfind e
    rw [namedEqG_typeref hfind]; exact primEq_symm p a b e
  · intro syms x hfind hx
    exact namedEqG_enum_self hfind hx
  · intro size x hfind
    exact namedEqG_fixed_self hfind x
  · intro incs own xs ys hfind hslots
    simp only [namedEqG_record hfind]
    exact List.all_eq_true.2 fun fld hfld => (hslots fld hfld).flip.optEqV_eq_true
  · intro hasNull members xs ys hfind hslots
    simp only [namedEqG_union hfind]
    exact List.all_eq_true.2 fun m hm => (hslots m hm).flip.optEqV_eq_true

theorem valueEq_symm (env : Env) (f : Nat) : ∀ (ty : Ty) (a b : Value), MapsOK a → MapsOK b →
    valueEq env f ty a b = true → valueEq env f ty b a = true := by
  induction f with
  | zero => intro _ _ _ _ _ he; cases he
  | succ f ih =>
    intro ty a b ha hb he
    rw [valueEq_succ] at he ⊢
    refine eqStep_cases (motive := fun ty a b => eqStep primEq env (valueEq env f) ty b a = true)
      ih ?_ ?_ ?_ ?_ ha hb he
    · intro p a b e
      exact primEq_symm p a b e
    · intro t xs ys hrel ihm
      exact (genericArray_iff _ ys xs).2 (hrel.symm_on ihm)
    · intro t xs ys hx hy hrel ihm
      exact (genericMap_iff _ ys xs hy hx).2 (MapRel.symm_on hrel ihm)
    · intro n a b ha hb e
      exact namedEqG_symm env ih n a b ha hb e

theorem SlotRel.trans {zs : List (Bytes × Value)} (hz : MapsOKKvs zs)
    (h₁ : SlotRel (fun t x y => ∀ z, MapsOK z → eqf t y z = true → eqf t x z = true) xs ys k t)
    (h₂ : optEqV (eqf t) (ys.lookup k) (zs.lookup k) = true) :
    optEqV (eqf t) (xs.lookup k) (zs.lookup k) = true := by
  rcases h₁ with ⟨hx, hy⟩ | ⟨x, y, hx, hy, r⟩ <;> rw [hx] <;> rw [hy] at h₂
  · exact h₂
  · cases hzk : zs.lookup k <;> rw [hzk] at h₂
    · cases h₂
    · exact r _ (lookup_mapsOK zs hz k _ hzk) h₂

theorem namedEqG_trans (env : Env)
    (ih : ∀ t x y, MapsOK x → MapsOK y → eqf t x y = true →
      ∀ z, MapsOK z → eqf t y z = true → eqf t x z = true)
    (n : TName) (a b : Value) (ha : MapsOK a) (hb : MapsOK b)
    (h₁ : namedEqG primEq env eqf n a b = true) :
    ∀ c, MapsOK c → namedEqG primEq env eqf n b c = true → namedEqG primEq env eqf n a c = true := by
  refine namedEqG_cases (motive := fun a b => ∀ c, MapsOK c →
    namedEqG primEq env eqf n b c = true → namedEqG primEq env eqf n a c = true) ih
    ?_ ?_ ?_ ?_ ?_ ha hb h₁
  · intro p a b hfind e c _ h₂
    rw [namedEqG_typeref hfind] at h₂ ⊢
    exact primEq_trans p a b c e h₂
  · intro syms x hfind hx c _ h₂
    exact h₂
  · intro size x hfind c _ h₂
    exact h₂
  · intro incs own xs ys hfind hslots c hc h₂
    rw [namedEqG_record hfind] at h₂ ⊢
    split at h₂
    · next zs =>
      exact List.all_eq_true.2 fun fld hfld => (hslots fld hfld).trans hc (List.all_eq_true.1 h₂ fld hfld)
    · cases h₂
  · intro hasNull members xs ys hfind hslots c hc h₂
    rw [namedEqG_union hfind] at h₂ ⊢
    split at h₂
    · next zs =>
      exact List.all_eq_true.2 fun m hm => (hslots m hm).trans hc (List.all_eq_true.1 h₂ m hm)
    · cases h₂

theorem valueEq_trans (env : Env) (f : Nat) : ∀ (ty : Ty) (a b : Value), MapsOK a → MapsOK b →
    valueEq env f ty a b = true → ∀ c, MapsOK c → valueEq env f ty b c = true → valueEq env f ty a c = true := by
  induction f with
  | zero => intro _ _ _ _ _ h₁; cases h₁
  | succ f ih =>
    intro ty a b ha hb h₁
    rw [valueEq_succ] at h₁ ⊢
    refine eqStep_cases (motive := fun ty a b => ∀ c, MapsOK c →
      eqStep primEq env (valueEq env f) ty b c = true → eqStep primEq env (valueEq env f) ty a c = true)
      ih ?_ ?_ ?_ ?_ ha hb h₁
    · intro p a b e c _ h₂
      exact primEq_trans p a b c e h₂
    · intro t xs ys hrel ihm c hc h₂
      cases c with
      | arr zs =>
        exact (genericArray_iff _ xs zs).2 (hrel.trans_on ((genericArray_iff _ ys zs).1 h₂)
          fun x hx y hy z hz e₁ e₂ => ihm x hx y hy e₁ z (mapsOKList_mem zs hc z hz) e₂)
      | _ => cases h₂
    · intro t xs ys hx hy hrel ihm c hc h₂
      cases c with
      | map zs =>
        exact (genericMap_iff _ xs zs hx hc.1).2 (MapRel.trans_on hrel ((genericMap_iff _ ys zs hy hc.1).1 h₂)
          fun x hx y hy z hz e₁ e₂ => ihm x hx y hy e₁ z.2 (mapsOKKvs_mem zs hc.2 z hz) e₂)
      | _ => cases h₂
    · intro n a b ha hb e c hc h₂
      exact namedEqG_trans env ih n a b ha hb e c hc h₂

end Restli.Codec
