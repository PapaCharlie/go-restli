import Restli.Proofs.MissingSpec
/-! The tree reader (JSON reader on a parsed document, untyped reader on a Go value) never takes a
panic branch, whatever the leaves say short of panicking themselves. -/
namespace Restli.Codec
open Json (JVal)

theorem treeCallbackWith_ne_panic {rd : Ty → TRes Value} (hrd : ∀ ty, rd ty ≠ .panic) (mode : MapMode)
    (acc : List (Bytes × Value)) (seen : List Bytes) (k : Bytes) :
    treeCallbackWith rd mode acc seen k ≠ .panic := by
  rcases treeCallbackWith_cases rd mode acc seen k with ⟨ty, _, heq⟩ | ⟨_, heq⟩ | ⟨e, heq⟩
  · rw [heq]; exact bindT_ne_panic (hrd ty) (fun _ _ _ => nofun)
  · rw [heq]; nofun
  · rw [heq]; nofun

mutual
theorem treeRead_ne_panic (c : TCfg) (hs : SemNoPanic c.sem) :
    (t : JVal) → ∀ (top : Bool) (scope : List Seg) (ty : Ty), treeRead c top scope ty t ≠ .panic
  | t, top, scope, .prim p => by simp only [treeRead]; exact hs.prim p t
  | t, top, scope, .arr ty => by
    cases t with
    | arr xs =>
      simp only [treeRead]
      exact bindT_ne_panic (treeReadItems_ne_panic c hs xs scope ty 0) (fun _ _ _ => nofun)
    | _ => simp [treeRead]
  | t, top, scope, .map ty => by
    cases t with
    | obj kvs =>
      simp only [treeRead]
      exact bindT_ne_panic (treeReadEntries_ne_panic c hs kvs scope _ _ _) (fun _ _ _ => nofun)
    | _ => simp [treeRead]
  | t, top, scope, .ref n => by
    simp only [treeRead]
    have hbody : ∀ mode, treeMapBody c scope mode t ≠ .panic := by
      intro mode
      cases t with
      | obj kvs => exact treeReadEntries_ne_panic c hs kvs scope _ _ _
      | _ => nofun
    cases hfind : c.env.find n with
    | none => nofun
    | some decl =>
      cases decl with
      | typeref p => exact hs.prim p t
      | enum syms => exact bindT_ne_panic (hs.str t) (fun _ _ _ => nofun)
      | fixed size =>
        refine bindT_ne_panic (hs.prim _ t) (fun v m _ => ?_)
        split
        · split <;> nofun
        · nofun
      | record incs own =>
        refine bindT_ne_panic (hbody _) (fun r m _ => ?_)
        split
        · next h => exact absurd h (finishRecord_ne_panic _ _ _ _ _ _ _ _ _)
        · nofun
        · nofun
      | union hasNull members =>
        refine bindT_ne_panic (hbody _) (fun r m _ => ?_)
        split <;> nofun
theorem treeReadEntries_ne_panic (c : TCfg) (hs : SemNoPanic c.sem) :
    (kvs : List (Bytes × JVal)) → ∀ (scope : List Seg) (mode : MapMode) (acc : List (Bytes × Value))
      (seen : List Bytes), treeReadEntries c scope mode acc seen kvs ≠ .panic
  | [], scope, mode, acc, seen => by simp only [treeReadEntries]; nofun
  | (k0, v) :: rest, scope, mode, acc, seen => by
    by_cases hv : v = .null
    · subst hv
      exact treeReadEntries_ne_panic c hs rest scope mode acc seen
    rw [treeReadEntries_cons c scope mode acc seen k0 v rest hv]
    split
    · nofun
    · next k _ =>
      split
      · next h => exact absurd h (tracker_check_ne_panic c.tracker scope (.key k))
      · nofun
      · refine bindT_ne_panic ?_ (fun acc' m1 _ => ?_)
        · exact treeCallbackWith_ne_panic (fun ty => treeRead_ne_panic c hs v false _ ty) _ _ _ _
        · exact bindT_ne_panic (treeReadEntries_ne_panic c hs rest scope mode acc' _)
            (fun _ _ _ => nofun)
theorem treeReadItems_ne_panic (c : TCfg) (hs : SemNoPanic c.sem) :
    (xs : List JVal) → ∀ (scope : List Seg) (ty : Ty) (idx : Nat), treeReadItems c scope ty idx xs ≠ .panic
  | [], scope, ty, idx => by simp only [treeReadItems]; nofun
  | x :: xs, scope, ty, idx => by
    simp only [treeReadItems]
    refine bindT_ne_panic (treeRead_ne_panic c hs x false _ ty) (fun v m1 _ => ?_)
    exact bindT_ne_panic (treeReadItems_ne_panic c hs xs scope ty (idx + 1))
      (fun _ _ _ => nofun)
end

/-- the untyped reader model never takes a panic branch: any Go value, any schema, any type, any
exclusion spec and ignore count -/
theorem unmarshalAny_ne_panic (env : Env) (tr : Tracker) (ty : Ty) (v : AnyVal) :
    unmarshalAny env tr ty v ≠ .panic :=
  treeRead_ne_panic _ anySem_leaf.noPanic _ _ _ _

/-- nor does the JSON reader model on any document the strict parser accepts -/
theorem unmarshalJson_ne_panic (c : TCfg) (hc : c.sem = jsonSem) (ty : Ty) (data : Bytes) :
    unmarshalJson c ty data ≠ some .panic := by
  unfold unmarshalJson
  split
  · simp
  · split
    · simp
    · next t _ =>
      simp only [ne_eq, Option.some.injEq]
      exact treeRead_ne_panic c (hc ▸ jsonSem_leaf.noPanic) t true [] ty

end Restli.Codec
