import Restli.Proofs.Ror2Eqns
import Restli.Proofs.PathSpecPanic
/-! One invariant for the six mutually recursive reader functions, proved by one induction on the
fuel: no `.panic` branch is taken, a successful read never leaves more input than it was given, and
the fuel does not run out when it exceeds twice the remaining input by a small constant — each
recursive call either descends one level of the generated code or consumes input, and nothing is
ever pushed back. The model can panic in three places: `readArray` indexes `u.data[u.pos]` right
after `List(` (safe because `atArray` demands more than `len("List(")` bytes), and `Tracker.check`
and `finishPanics` call `genericMatches`, which indexes `path[0]` (Proofs/PathSpecPanic.lean). The
other indexings of `ror2_reader.go` stand behind an `if u.pos >= len(u.data)` and are modelled
together with that guard as one match ending in `.err .syntax`. Props/C04.lean reads its statements
off `readerSafe`. -/
namespace Restli.Codec

theorem of_ite_eq {α : Type} {c : Prop} [Decidable c] {a b x : α} {Q : Prop} (ha : a = x → Q) (hb : b = x → Q)
    (h : (if c then a else b) = x) : Q := by
  split at h
  · exact ha h
  · exact hb h

theorem readFieldName_ne_panic (rest : Bytes) : readFieldName rest ≠ .panic := by
  unfold readFieldName
  cases rest with
  | nil => nofun
  | cons c cs =>
    refine ite_ne (fun _ => nofun) fun _ => ?_
    cases scanName (c :: cs) with
    | none => nofun
    | some p => exact ite_ne (fun _ => nofun) fun _ => nofun

theorem scanPrim_len : ∀ (b : Bytes), (scanPrim b).2.length ≤ b.length := by
  intro b
  induction b with
  | nil => exact Nat.le_refl _
  | cons c cs ih =>
    rw [scanPrim]
    split
    · exact Nat.le_refl _
    · exact Nat.le_succ_of_le ih

theorem skipScan_len (b : Bool) : ∀ (cs : Bytes) (n : Nat) (r : Bytes), skipScan b n cs = some r → r.length ≤ cs.length := by
  intro cs n r h
  induction cs generalizing n with
  | nil => cases h
  | cons c cs ih =>
    -- every branch of the scan either stops here or scans on in `cs`
    have stop : some (c :: cs) = some r → r.length ≤ (c :: cs).length := fun h => by cases h; exact Nat.le_refl _
    have go : ∀ n, skipScan b n cs = some r → r.length ≤ (c :: cs).length :=
      fun n h => Nat.le_succ_of_le (ih n h)
    rw [skipScan] at h
    exact of_ite_eq (of_ite_eq (fun h => by cases h) (go _))
      (of_ite_eq (of_ite_eq stop (go _)) (of_ite_eq (of_ite_eq stop (go _)) (go _))) h

theorem scanName_len : ∀ (b n r : Bytes), scanName b = some (n, r) → n.length + 1 + r.length = b.length := by
  intro b n r h
  induction b generalizing n r with
  | nil => cases h
  | cons c cs ih =>
    rw [scanName] at h
    refine of_ite_eq (fun h => ?_) (of_ite_eq (fun h => by cases h) fun h => ?_) h
    · cases h
      exact Nat.add_comm 1 _
    · cases he : scanName cs with
      | none => rw [he] at h; cases h
      | some p =>
        rw [he] at h
        cases h
        have := ih p.1 p.2 he
        simp only [List.length_cons]
        omega

/-- a field name and its ':' take at least two bytes -/
theorem readFieldName_len (rest raw after : Bytes) (h : readFieldName rest = .name raw after) :
    after.length + 2 ≤ rest.length := by
  unfold readFieldName at h
  cases rest with
  | nil => cases h
  | cons c cs =>
    refine of_ite_eq (fun h => by cases h) (fun h => ?_) h
    cases he : scanName (c :: cs) with
    | none => rw [he] at h; cases h
    | some p =>
      rw [he] at h
      have := scanName_len _ _ _ he
      -- an empty name is rejected
      obtain ⟨_ | ⟨x, n⟩, a⟩ := p
      · cases h
      · cases h
        simp only [List.length_cons] at this ⊢
        omega

theorem atMap_len (s : RS) (h : atMap s = true) : 1 ≤ s.rest.length := by
  unfold atMap at h
  cases hs : s.rest with
  | nil => simp [hs] at h
  | cons _ _ => simp

theorem atArray_len (s : RS) (h : atArray s = true) : Gen.listPrefix.length < s.rest.length := by
  unfold atArray at h
  simp only [Bool.and_eq_true, decide_eq_true_eq] at h
  exact h.2

theorem length_drop_add {l : Bytes} {k : Nat} (h : k ≤ l.length) : (l.drop k).length + k = l.length := by
  rw [List.length_drop]
  exact Nat.sub_add_cancel h

/-- what a reader function guarantees about its outcome `r` when started on `n` bytes: it is no
panic, a value comes with at most `n` bytes left, and (given `A`: the fuel is adequate) it is not
"out of fuel" -/
def Safe {α : Type} (A : Prop) (n : Nat) (r : Res α) : Prop :=
  r ≠ .panic ∧ (∀ v s', r = .ok v s' → s'.rest.length ≤ n) ∧ (A → r ≠ .fuel)

namespace Safe
variable {α β : Type} {A B : Prop} {n m : Nat}

theorem err (e : DecErr) : Safe A n (.err e : Res α) := ⟨nofun, nofun, fun _ => nofun⟩

theorem unmodelled : Safe A n (.unmodelled : Res α) := ⟨nofun, nofun, fun _ => nofun⟩

theorem ok (v : α) {s : RS} (h : s.rest.length ≤ n) : Safe A n (.ok v s) :=
  ⟨nofun, fun _ _ he => by cases he; exact h, fun _ => nofun⟩

theorem ite {c : Prop} [Decidable c] {a b : Res α} (ha : c → Safe A n a) (hb : ¬c → Safe A n b) :
    Safe A n (if c then a else b) := by
  split
  · exact ha ‹_›
  · exact hb ‹_›

theorem bind {r : Res α} {f : α → RS → Res β} (h : Safe A n r)
    (hf : ∀ v s', s'.rest.length ≤ n → Safe A n (f v s')) : Safe A n (r.bind f) := by
  cases r with
  | ok v s => exact hf v s (h.2.1 v s rfl)
  | err e => exact err e
  | panic => exact absurd rfl h.1
  | fuel => exact ⟨nofun, nofun, fun a => absurd rfl (h.2.2 a)⟩
  | unmodelled => exact unmodelled

theorem map {r : Res α} {g : α → β} (h : Safe A n r) : Safe A n (r.bind fun v s => .ok (g v) s) :=
  h.bind fun _ _ hs => ok _ hs

/-- a callee started further on, whose fuel is adequate whenever the caller's is -/
theorem mono {r : Res α} (h : Safe A n r) (hn : n ≤ m) (hA : B → A) : Safe B m r :=
  ⟨h.1, fun v s' he => Nat.le_trans (h.2.1 v s' he) hn, fun b => h.2.2 (hA b)⟩

/-- the fuel bookkeeping of a call: the caller has `2·n + k`, the callee starts `c` bytes further on
with `m` bytes left and asks for `2·m + j`; one unit of fuel pays for the call, each consumed byte
frees two -/
theorem step (j k : Nat) {m c F : Nat} {r : Res α} (h : Safe (2 * m + j ≤ F) m r) (hm : m + c ≤ n)
    (hj : j + 1 ≤ k + 2 * c) : Safe (2 * n + k ≤ F + 1) n r :=
  h.mono (Nat.le_of_add_right_le hm) fun hF => by omega

end Safe

theorem readPrimTok_safe {A : Prop} {s : RS} : Safe A s.rest.length (readPrimTok s) := by
  unfold readPrimTok
  refine .ite (fun _ => .ite (fun _ => .err _) fun _ => .ok _ (Nat.zero_le _)) fun _ => ?_
  have := scanPrim_len s.rest
  generalize scanPrim s.rest = tr at this
  exact .ite (fun _ => .err _) fun _ => .ite (fun _ => .err _) fun _ => .ok _ this

theorem readString_safe {A : Prop} {c : RCfg} {s : RS} : Safe A s.rest.length (readString c s) := by
  rw [readString_eq]
  refine readPrimTok_safe.bind fun t s' h => ?_
  cases tokString c.plus t with
  | some b => exact .ok _ h
  | none => exact .err _

theorem readPrim_safe {A : Prop} {c : RCfg} {p : Prim} {s : RS} : Safe A s.rest.length (readPrim c p s) := by
  rw [readPrim_eq]
  refine readPrimTok_safe.bind fun t s' h => ?_
  cases tokPrim c.plus p t with
  | ok v => exact .ok _ h
  | err => exact .err _
  | unmodelled => exact .unmodelled

theorem skip_safe (A : Prop) (s : RS) : Safe A s.rest.length (skip s) := by
  unfold skip
  refine .ite (fun _ => .ok _ (Nat.zero_le _)) fun _ => ?_
  cases h : skipScan (atArray s || atMap s) 0 s.rest with
  | some r => exact .ok _ (skipScan_len _ _ _ _ h)
  | none => exact .err _

/-- the six reader functions at one fuel level, each with the fuel it needs for `Safe`'s last
clause: twice the remaining input plus the longest chain of calls down to the next consumed byte:
callback 5 → `readTy` 4 → `readMap`/`readArray` 3 → ('(' or `List(` consumed) map loop 4 / array loop 5 -/
def ReaderSafe (c : RCfg) (F : Nat) : Prop :=
  (∀ scope ty s, Safe (2 * s.rest.length + 4 ≤ F) s.rest.length (readTy c F scope ty s)) ∧
  (∀ scope mode s, Safe (2 * s.rest.length + 3 ≤ F) s.rest.length (readMap c F scope mode s)) ∧
  (∀ scope mode acc seen s, Safe (2 * s.rest.length + 4 ≤ F) s.rest.length
    (readMapLoop c F scope mode acc seen s)) ∧
  (∀ scope mode acc seen k s, Safe (2 * s.rest.length + 5 ≤ F) s.rest.length
    (readMapCallback c F scope mode acc seen k s)) ∧
  (∀ scope t s, Safe (2 * s.rest.length + 3 ≤ F) s.rest.length (readArray c F scope t s)) ∧
  (∀ scope t i s, Safe (2 * s.rest.length + 5 ≤ F) s.rest.length (readArrayLoop c F scope t i s))

theorem readerSafe (c : RCfg) : ∀ F, ReaderSafe c F
  | 0 =>
    have out {α : Type} {k n : Nat} : Safe (k + 1 ≤ 0) n (.fuel : Res α) :=
      ⟨nofun, nofun, fun h => absurd h (Nat.not_succ_le_zero _)⟩
    ⟨fun _ _ _ => out, fun _ _ _ => out, fun _ _ _ _ _ => out, fun _ _ _ _ _ _ => out, fun _ _ _ => out,
      fun _ _ _ _ => out⟩
  | F + 1 => by
    obtain ⟨ihT, ihM, ihL, ihC, ihA, ihAL⟩ := readerSafe c F
    refine ⟨?_, ?_, ?_, ?_, ?_, ?_⟩
    · intro scope ty s
      have gM := fun mode => (ihM scope mode s).mono (Nat.le_refl _) Nat.le_of_succ_le_succ
      cases ty with
      | prim p => exact readPrim_safe
      | arr t => exact (ihA scope t s).mono (Nat.le_refl _) Nat.le_of_succ_le_succ
      | map t => rw [readTy_map]; exact (gM _).map
      | ref n =>
        rw [readTy_ref]
        cases c.env.find n with
        | none => exact .err _
        | some d =>
          cases d with
          | typeref p => exact readPrim_safe
          | enum syms => exact readString_safe.map
          | fixed size =>
            exact readString_safe.bind fun b s' h => .ite (fun _ => .ok _ h) fun _ => .err _
          | record incs own =>
            refine (gM _).bind fun r s' h => ?_
            cases hfin : finishRecord c.env c.tracker scope (s.start && !c.query)
                (allFields c.env (includeFuel c.env) n) own r.1 r.2 s'.missing with
            | panic => exact absurd hfin (finishRecord_ne_panic _ _ _ _ _ _ _ _ _)
            | missingErr ps v => exact .err _
            | ok v m => exact .ok _ h
          | union hasNull members =>
            exact (gM _).bind fun r s' h => .ite (fun _ => .err _) fun _ => .ok _ h
    · intro scope mode s
      rw [readMap]
      refine .ite (fun _ => .err _) fun hat => ?_
      have hd : (s.rest.drop 1).length + 1 ≤ s.rest.length :=
        Nat.le_of_eq (length_drop_add (atMap_len s (by simpa using hat)))
      exact (ihL scope mode [] [] (s.adv (s.rest.drop 1))).step 4 3 hd (by decide)
    · intro scope mode acc seen s
      rw [readMapLoop_succ]
      cases hname : readFieldName s.rest with
      | bad => exact .err _
      | panic => exact absurd hname (readFieldName_ne_panic _)
      | close => exact .ok _ (Nat.le_trans (Nat.le_of_eq List.length_drop) (Nat.sub_le _ _))
      | name raw after =>
        have hlen := readFieldName_len s.rest raw after hname
        dsimp only
        cases (if raw == Gen.emptyMarker then some [] else c.decode raw) with
        | none => exact .err _
        | some k =>
          dsimp only
          cases hchk : c.tracker.check (scope ++ [.key k]) with
          | panic => exact absurd hchk (tracker_check_ne_panic _ _ _)
          | yes => exact .err _
          | no =>
            refine ((ihC (scope ++ [.key k]) mode acc seen k (s.adv after)).step 5 4 hlen (by decide)).bind
              fun acc' s2 h2 => ?_
            cases hr : s2.rest with
            | nil => exact .err _
            | cons d r2 =>
              -- the separator `d` has been consumed
              have h3 : r2.length + 1 ≤ s.rest.length := by rw [hr] at h2; exact h2
              exact .ite
                (fun _ => (ihL scope mode acc' (seen ++ [k]) (s2.adv r2)).step 4 4 h3 (by decide))
                fun _ => .ite (fun _ => .ok _ (Nat.le_of_succ_le h3)) fun _ => .err _
    · intro scope mode acc seen k s
      have gT := fun t => (ihT scope t s).mono (Nat.le_refl _) Nat.le_of_succ_le_succ
      rw [readMapCallback_succ]
      cases mode with
      | record fields =>
        dsimp only
        cases findField fields k with
        | some f => exact (gT _).map
        | none => exact (skip_safe _ s).map
      | mapOf t => exact (gT _).map
      | union members =>
        refine .ite (fun _ => .err _) fun _ => ?_
        cases members.lookup k with
        | some t => exact (gT _).map
        | none => exact .err _
    · intro scope t s
      rw [readArray_succ]
      refine .ite (fun _ => .err _) fun hat => ?_
      -- `atArray` guarantees more than `len("List(")` bytes: the index `u.data[u.pos]` cannot fail
      have hlen := atArray_len s (by simpa using hat)
      have hd : (s.rest.drop Gen.listPrefix.length).length + Gen.listPrefix.length = s.rest.length :=
        length_drop_add (Nat.le_of_lt hlen)
      cases hr : s.rest.drop Gen.listPrefix.length with
      | nil => rw [hr] at hd; exact absurd hlen (hd ▸ Nat.lt_irrefl _)
      | cons d r =>
        rw [hr] at hd
        have hd := Nat.le_of_eq hd
        exact .ite (fun _ => .ok _ (Nat.le_of_add_right_le (Nat.le_of_add_right_le hd))) fun _ =>
          ((ihAL scope t 0 (s.adv (d :: r))).step 5 3 hd (by decide)).map
    · intro scope t i s
      rw [readArrayLoop_succ]
      refine ((ihT (scope ++ [.idx i]) t s).mono (Nat.le_refl _) Nat.le_of_succ_le_succ).bind fun v s2 h2 => ?_
      cases hr : s2.rest with
      | nil => exact .err _
      | cons d r2 =>
        have h3 : r2.length + 1 ≤ s.rest.length := by rw [hr] at h2; exact h2
        exact .ite
          (fun _ => ((ihAL scope t (i + 1) (s2.adv r2)).step 5 5 h3 (by decide)).map)
          fun _ => .ite (fun _ => .ok _ (Nat.le_of_succ_le h3)) fun _ => .err _

/-- the six mutually recursive reader functions at one fuel level -/
def NoPanicAt (c : RCfg) (fuel : Nat) : Prop :=
  (∀ scope ty s, readTy c fuel scope ty s ≠ .panic) ∧
  (∀ scope mode s, readMap c fuel scope mode s ≠ .panic) ∧
  (∀ scope mode acc seen s, readMapLoop c fuel scope mode acc seen s ≠ .panic) ∧
  (∀ scope mode acc seen k s, readMapCallback c fuel scope mode acc seen k s ≠ .panic) ∧
  (∀ scope t s, readArray c fuel scope t s ≠ .panic) ∧
  (∀ scope t i s, readArrayLoop c fuel scope t i s ≠ .panic)

/-- a result that is not "out of fuel" and whose remaining input is no longer than `n` -/
def Good {α : Type} (n : Nat) (r : Res α) : Prop :=
  r ≠ .fuel ∧ ∀ v s', r = .ok v s' → s'.rest.length ≤ n

theorem Good.unmodelled {α : Type} (n : Nat) : Good n (Res.unmodelled : Res α) := ⟨by simp, by simp⟩

@[simp] theorem adv_rest (s : RS) (r : Bytes) : (s.adv r).rest = r := rfl

/-- the six mutually recursive reader functions at one fuel level: enough fuel for the remaining
input means no "out of fuel" outcome, and the input never grows -/
def FuelOK (c : RCfg) (F : Nat) : Prop :=
  (∀ scope ty s, 2 * s.rest.length + 4 ≤ F → Good s.rest.length (readTy c F scope ty s)) ∧
  (∀ scope mode s, 2 * s.rest.length + 3 ≤ F → Good s.rest.length (readMap c F scope mode s)) ∧
  (∀ scope mode acc seen s, 2 * s.rest.length + 4 ≤ F →
    Good s.rest.length (readMapLoop c F scope mode acc seen s)) ∧
  (∀ scope mode acc seen k s, 2 * s.rest.length + 5 ≤ F →
    Good s.rest.length (readMapCallback c F scope mode acc seen k s)) ∧
  (∀ scope t s, 2 * s.rest.length + 3 ≤ F → Good s.rest.length (readArray c F scope t s)) ∧
  (∀ scope t i s, 2 * s.rest.length + 5 ≤ F → Good s.rest.length (readArrayLoop c F scope t i s))

/-- **`NewRor2ReaderWithExcludedFields(data, …)` + generated `UnmarshalRestLi` takes no panic branch
of the model**, for any input bytes, any schema, any type, any exclusion spec and ignore count -/
theorem unmarshalRor2_ne_panic (c : RCfg) (ty : Ty) (data : Bytes) : unmarshalRor2 c ty data ≠ .panic := by
  unfold unmarshalRor2
  exact ite_ne (fun _ => nofun) fun _ => ((readerSafe c _).1 _ _ _).1

/-- **the ROR2 reader never runs out of fuel**: for every schema, type, exclusion spec and input the
fuel `unmarshalRor2` starts with, `3·len + 8`, is more than the `2·len + 4` that `readerSafe` asks for -/
theorem unmarshalRor2_ne_fuel (c : RCfg) (ty : Ty) (data : Bytes) : unmarshalRor2 c ty data ≠ .fuel := by
  unfold unmarshalRor2
  exact ite_ne (fun _ => nofun) fun _ =>
    ((readerSafe c _).1 [] ty { rest := data, start := true }).2.2 (by simp only; omega)

end Restli.Codec
