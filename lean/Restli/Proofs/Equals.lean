import Restli.Model.Equals
import Restli.Spec.Equals
import Restli.Proofs.Bytes
/-! The `equals` helpers (`Model/Equals.lean`) decide the specification's relations `ArrRel`/`MapRel`/
`OptRel`; the laws of those relations, with the element laws restricted to the members at hand, and
hash congruence (`Model/Fnv.lean`) on top. -/
namespace Restli.Equals
open Restli Restli.EqualsSpec Restli.Fnv

theorem sortHashes_perm_input (l : List Hash) : (sortHashes l).Perm l := isort_perm _ l

theorem hashLe_trans (a b c : Hash) (hab : decide (a ≤ b) = true) (hbc : decide (b ≤ c) = true) :
    decide (a ≤ c) = true := by
  simp only [decide_eq_true_eq] at *
  exact UInt32.le_trans hab hbc

theorem hashLe_total (a b : Hash) : (decide (a ≤ b) || decide (b ≤ a)) = true := by
  simp only [Bool.or_eq_true, decide_eq_true_eq]
  exact UInt32.le_total a b

theorem hashLe_antisymm (a b : Hash) (hab : decide (a ≤ b) = true) (hba : decide (b ≤ a) = true) :
    a = b := by
  simp only [decide_eq_true_eq] at hab hba
  exact UInt32.le_antisymm hab hba

theorem sortHashes_sorted (l : List Hash) :
    (sortHashes l).Pairwise (fun a b => decide (a ≤ b) = true) :=
  isort_pairwise _ hashLe_trans hashLe_total l

theorem sortHashes_eq_of_perm {l l' : List Hash} (h : l.Perm l') : sortHashes l = sortHashes l' :=
  isort_eq_of_perm _ hashLe_trans hashLe_total hashLe_antisymm h

theorem addMap_eq_of_perm {α : Type} (P : Params) (hasher : Hash → α → Hash) (h : Hash)
    {m m' : List (Bytes × α)} (hp : m.Perm m') : addMap P hasher h m = addMap P hasher h m' := by
  simp only [addMap]
  rw [sortHashes_eq_of_perm (hp.map (kvHash P hasher))]

theorem arrayLoop_iff {α : Type} (eq : α → α → Bool) (l r : List α) (hlen : l.length = r.length) :
    arrayLoop eq l r = true ↔ ArrRel eq l r := by
  induction l generalizing r with
  | nil =>
    cases r with
    | nil => simp [arrayLoop]; exact ArrRel.nil
    | cons b r => simp at hlen
  | cons a l ih =>
    cases r with
    | nil => simp at hlen
    | cons b r =>
      simp only [List.length_cons, Nat.add_right_cancel_iff] at hlen
      simp only [arrayLoop]
      constructor
      · intro h
        cases hab : eq a b with
        | false => simp [hab] at h
        | true =>
          simp [hab] at h
          exact ArrRel.cons hab ((ih r hlen).1 h)
      · intro h
        cases h with
        | cons hab hrest =>
          simp [hab]
          exact (ih r hlen).2 hrest

theorem _root_.Restli.EqualsSpec.ArrRel.length_eq {α : Type} {eq : α → α → Bool} {l r : List α} (h : ArrRel eq l r) :
    l.length = r.length := by
  induction h with
  | nil => rfl
  | cons _ _ ih => simp [ih]

theorem genericArray_iff {α : Type} (eq : α → α → Bool) (l r : List α) :
    genericArray eq l r = true ↔ ArrRel eq l r := by
  simp only [genericArray]
  by_cases hlen : l.length = r.length
  · simp [hlen, arrayLoop_iff eq l r hlen]
  · simp [hlen]
    intro h
    exact hlen h.length_eq

/-- the index expression `right[i]` never panics -/
theorem genericArrayP_eq {α : Type} (eq : α → α → Bool) (l r : List α) :
    genericArrayP eq l r = some (genericArray eq l r) := by
  simp only [genericArrayP, genericArray]
  by_cases hlen : l.length = r.length
  · simp only [hlen, bne_self_eq_false, Bool.false_eq_true, ↓reduceIte]
    induction l generalizing r with
    | nil => simp [arrayLoopP, arrayLoop]
    | cons a l ih =>
      cases r with
      | nil => simp at hlen
      | cons b r =>
        simp only [List.length_cons, Nat.add_right_cancel_iff] at hlen
        simp only [arrayLoopP, arrayLoop]
        cases eq a b <;> simp [ih r hlen]
  · simp [hlen]

section Arrays
variable {α : Type} {eq eq' : α → α → Bool} {l m r : List α}

theorem _root_.Restli.EqualsSpec.ArrRel.refl_on (h : ∀ a ∈ l, eq a a = true) :
    ArrRel eq l l := by
  induction l with
  | nil => exact ArrRel.nil
  | cons a l ih =>
    exact ArrRel.cons (h a List.mem_cons_self) (ih (fun x hx => h x (List.mem_cons_of_mem a hx)))

theorem _root_.Restli.EqualsSpec.ArrRel.symm_on (h : ArrRel eq l r)
    (hs : ∀ a ∈ l, ∀ b ∈ r, eq a b = true → eq b a = true) : ArrRel eq r l := by
  induction h with
  | nil => exact ArrRel.nil
  | @cons a b l r hab _ ih =>
    exact ArrRel.cons (hs a List.mem_cons_self b List.mem_cons_self hab)
      (ih (fun x hx y hy => hs x (List.mem_cons_of_mem a hx) y (List.mem_cons_of_mem b hy)))

theorem _root_.Restli.EqualsSpec.ArrRel.trans_on (h₁ : ArrRel eq l m)
    (h₂ : ArrRel eq m r)
    (ht : ∀ a ∈ l, ∀ b ∈ m, ∀ c ∈ r, eq a b = true → eq b c = true → eq a c = true) :
    ArrRel eq l r := by
  induction h₁ generalizing r with
  | nil => cases h₂; exact ArrRel.nil
  | @cons a b l m hab _ ih =>
    cases h₂ with
    | @cons _ c _ r' hbc hrest =>
      exact ArrRel.cons (ht a List.mem_cons_self b List.mem_cons_self c List.mem_cons_self hab hbc)
        (ih hrest (fun x hx y hy z hz =>
          ht x (List.mem_cons_of_mem a hx) y (List.mem_cons_of_mem b hy) z (List.mem_cons_of_mem c hz)))

theorem _root_.Restli.EqualsSpec.ArrRel.mono (h : ArrRel eq l r)
    (hm : ∀ a ∈ l, ∀ b ∈ r, eq a b = true → eq' a b = true) : ArrRel eq' l r := by
  induction h with
  | nil => exact ArrRel.nil
  | @cons a b l r hab _ ih =>
    exact ArrRel.cons (hm a List.mem_cons_self b List.mem_cons_self hab)
      (ih (fun x hx y hy => hm x (List.mem_cons_of_mem _ hx) y (List.mem_cons_of_mem _ hy)))

theorem _root_.Restli.EqualsSpec.ArrRel.addArray_eq (h : ArrRel eq l r)
    (hasher : Hash → α → Hash)
    (hc : ∀ a ∈ l, ∀ b ∈ r, eq a b = true → ∀ h, hasher h a = hasher h b) (h0 : Hash) :
    addArray hasher h0 l = addArray hasher h0 r := by
  induction h generalizing h0 with
  | nil => rfl
  | @cons a b l r hab _ ih =>
    simp only [addArray, List.foldl_cons]
    rw [hc a List.mem_cons_self b List.mem_cons_self hab h0]
    exact ih (fun x hx y hy => hc x (List.mem_cons_of_mem a hx) y (List.mem_cons_of_mem b hy)) _

end Arrays

theorem mapLookup_eq_lookup {α : Type} (k : Bytes) (m : List (Bytes × α)) : mapLookup k m = m.lookup k := by
  induction m with
  | nil => rfl
  | cons kv m ih =>
    obtain ⟨k', v⟩ := kv
    rw [mapLookup, List.lookup_cons, ih, BEq.comm]
    cases k == k' <;> rfl

theorem mapLookup_mem {α : Type} {k : Bytes} {m : List (Bytes × α)} {v : α}
    (h : mapLookup k m = some v) : (k, v) ∈ m :=
  lookup_mem (mapLookup_eq_lookup k m ▸ h)

theorem mapLookup_eq_none {α : Type} {k : Bytes} {m : List (Bytes × α)} :
    mapLookup k m = none ↔ k ∉ m.map Prod.fst := by
  rw [mapLookup_eq_lookup, List.lookup_eq_none_iff]
  constructor
  · intro h hm
    obtain ⟨p, hp, e⟩ := List.mem_map.1 hm
    exact bne_iff_ne.1 (h p hp) e.symm
  · exact fun h p hp => bne_iff_ne.2 fun e => h (List.mem_map.2 ⟨p, hp, e.symm⟩)

theorem mapLookup_of_mem {α : Type} {k : Bytes} {m : List (Bytes × α)} {v : α}
    (hn : KeysNodup m) (h : (k, v) ∈ m) : mapLookup k m = some v :=
  (mapLookup_eq_lookup k m).trans (lookup_of_mem hn h)

theorem keysNodup_unique {α : Type} {m : List (Bytes × α)} (hn : KeysNodup m) {k : Bytes} {v w : α}
    (hv : (k, v) ∈ m) (hw : (k, w) ∈ m) : v = w := by
  have h1 := mapLookup_of_mem hn hv
  have h2 := mapLookup_of_mem hn hw
  rw [h1] at h2
  exact Option.some.inj h2

theorem nodup_of_keysNodup {α : Type} {m : List (Bytes × α)} (hn : KeysNodup m) : m.Nodup := by
  simp only [KeysNodup, List.Nodup, List.pairwise_map] at hn
  exact hn.imp (fun hab e => hab (by rw [e]))

/-- pigeonhole on duplicate-free lists of equal length -/
theorem subset_of_subset_of_length_eq {l r : List Bytes} (hl : l.Nodup)
    (hsub : l ⊆ r) (hlen : l.length = r.length) : r ⊆ l := by
  intro x hx
  apply Classical.byContradiction
  intro hnx
  have hsub' : l ⊆ r.erase x := by
    intro y hy
    have hyx : y ≠ x := fun e => hnx (e ▸ hy)
    exact (List.mem_erase_of_ne hyx).2 (hsub hy)
  have h1 := hl.length_le_of_subset hsub'
  have h2 : (r.erase x).length = r.length - 1 := List.length_erase_of_mem hx
  have h3 : 0 < r.length := List.length_pos_of_mem hx
  omega

/-- the right map re-listed in the order of the left one -/
def alignTo {α : Type} (l r : List (Bytes × α)) : List (Bytes × α) :=
  l.map (fun kv => (kv.1, match mapLookup kv.1 r with
                          | some rv => rv
                          | none => kv.2))

theorem alignTo_keys {α : Type} (l r : List (Bytes × α)) :
    (alignTo l r).map Prod.fst = l.map Prod.fst := by
  simp [alignTo, List.map_map, Function.comp_def]

section Maps
variable {α : Type} {eq eq' : α → α → Bool} {l l' m r r' : List (Bytes × α)}

/-- every key of `l` has a related entry in `r`: one half of `MapRel`, what the loop checks -/
theorem keys_subset (fwd : ∀ k lv, (k, lv) ∈ l → ∃ rv, (k, rv) ∈ r ∧ eq lv rv = true) :
    l.map Prod.fst ⊆ r.map Prod.fst := by
  intro x hx
  obtain ⟨⟨k, lv⟩, hkin, rfl⟩ := List.mem_map.1 hx
  obtain ⟨rv, hr, _⟩ := fwd k lv hkin
  exact List.mem_map.2 ⟨(k, rv), hr, rfl⟩

theorem _root_.Restli.EqualsSpec.MapRel.refl_on (h : ∀ kv ∈ m, eq kv.2 kv.2 = true) : MapRel eq m m :=
  ⟨fun k lv hin => ⟨lv, hin, h (k, lv) hin⟩, fun k rv hin => ⟨rv, hin, h (k, rv) hin⟩⟩

theorem _root_.Restli.EqualsSpec.MapRel.symm_on (h : MapRel eq l r)
    (hs : ∀ a ∈ l, ∀ b ∈ r, eq a.2 b.2 = true → eq b.2 a.2 = true) : MapRel eq r l :=
  ⟨fun k rv hin => by
      obtain ⟨lv, hl, he⟩ := h.2 k rv hin
      exact ⟨lv, hl, hs (k, lv) hl (k, rv) hin he⟩,
   fun k lv hin => by
      obtain ⟨rv, hr, he⟩ := h.1 k lv hin
      exact ⟨rv, hr, hs (k, lv) hin (k, rv) hr he⟩⟩

theorem _root_.Restli.EqualsSpec.MapRel.trans_on (h₁ : MapRel eq l m) (h₂ : MapRel eq m r)
    (ht : ∀ a ∈ l, ∀ b ∈ m, ∀ c ∈ r, eq a.2 b.2 = true → eq b.2 c.2 = true → eq a.2 c.2 = true) :
    MapRel eq l r :=
  ⟨fun k lv hin => by
      obtain ⟨mv, hm, he⟩ := h₁.1 k lv hin
      obtain ⟨rv, hr, he'⟩ := h₂.1 k mv hm
      exact ⟨rv, hr, ht (k, lv) hin (k, mv) hm (k, rv) hr he he'⟩,
   fun k rv hin => by
      obtain ⟨mv, hm, he'⟩ := h₂.2 k rv hin
      obtain ⟨lv, hl, he⟩ := h₁.2 k mv hm
      exact ⟨lv, hl, ht (k, lv) hl (k, mv) hm (k, rv) hin he he'⟩⟩

theorem _root_.Restli.EqualsSpec.MapRel.mono (h : MapRel eq l r)
    (hm : ∀ a ∈ l, ∀ b ∈ r, eq a.2 b.2 = true → eq' a.2 b.2 = true) : MapRel eq' l r :=
  ⟨fun k lv hin => by
      obtain ⟨rv, hr, he⟩ := h.1 k lv hin
      exact ⟨rv, hr, hm (k, lv) hin (k, rv) hr he⟩,
   fun k rv hin => by
      obtain ⟨lv, hl, he⟩ := h.2 k rv hin
      exact ⟨lv, hl, hm (k, lv) hl (k, rv) hin he⟩⟩

theorem _root_.Restli.EqualsSpec.MapRel.perm (hl : l.Perm l') (hr : r.Perm r') (h : MapRel eq l r) : MapRel eq l' r' :=
  ⟨fun k lv hin => by
      obtain ⟨rv, hr', he⟩ := h.1 k lv (hl.mem_iff.2 hin)
      exact ⟨rv, hr.mem_iff.1 hr', he⟩,
   fun k rv hin => by
      obtain ⟨lv, hl', he⟩ := h.2 k rv (hr.mem_iff.2 hin)
      exact ⟨lv, hl.mem_iff.1 hl', he⟩⟩

theorem alignTo_perm (h : MapRel eq l r)
    (hl : KeysNodup l) (hr : KeysNodup r) : (alignTo l r).Perm r := by
  have hna : KeysNodup (alignTo l r) := by simpa [KeysNodup, alignTo_keys] using hl
  rw [List.perm_ext_iff_of_nodup (nodup_of_keysNodup hna) (nodup_of_keysNodup hr)]
  intro ⟨k, v⟩
  constructor
  · intro hin
    simp only [alignTo, List.mem_map, Prod.mk.injEq] at hin
    obtain ⟨⟨k', lv⟩, hkin, hk, hv⟩ := hin
    simp only at hk hv
    subst hk
    obtain ⟨rv, hr', _⟩ := h.1 k' lv hkin
    rw [mapLookup_of_mem hr hr'] at hv
    simp only at hv
    subst hv
    exact hr'
  · intro hin
    obtain ⟨lv, hl', _⟩ := h.2 k v hin
    simp only [alignTo, List.mem_map, Prod.mk.injEq]
    refine ⟨(k, lv), hl', rfl, ?_⟩
    simp [mapLookup_of_mem hr hin]

theorem _root_.Restli.EqualsSpec.MapRel.addMap_eq (h : MapRel eq l r)
    (hl : KeysNodup l) (hr : KeysNodup r) (P : Params) (hasher : Hash → α → Hash)
    (hc : ∀ a ∈ l, ∀ b ∈ r, eq a.2 b.2 = true → ∀ h, hasher h a.2 = hasher h b.2) (h0 : Hash) :
    addMap P hasher h0 l = addMap P hasher h0 r := by
  rw [← addMap_eq_of_perm P hasher h0 (alignTo_perm h hl hr)]
  simp only [addMap]
  congr 2
  simp only [alignTo, List.map_map]
  apply List.map_congr_left
  intro ⟨k, lv⟩ hin
  obtain ⟨rv, hr', he⟩ := h.1 k lv hin
  simp only [Function.comp_def, kvHash, mapLookup_of_mem hr hr']
  exact hc (k, lv) hin (k, rv) hr' he _

end Maps

theorem genericMap_iff {α : Type} (eq : α → α → Bool) (l r : List (Bytes × α))
    (hl : KeysNodup l) (hr : KeysNodup r) :
    genericMap eq l r = true ↔ MapRel eq l r := by
  simp only [genericMap]
  constructor
  · intro h
    by_cases hlen : l.length = r.length
    · simp only [hlen, bne_self_eq_false, Bool.false_eq_true, ↓reduceIte, List.all_eq_true] at h
      have fwd : ∀ k lv, (k, lv) ∈ l → ∃ rv, (k, rv) ∈ r ∧ eq lv rv = true := by
        intro k lv hin
        have := h (k, lv) hin
        simp only at this
        cases hlk : mapLookup k r with
        | none => simp [hlk] at this
        | some rv =>
          simp only [hlk] at this
          exact ⟨rv, mapLookup_mem hlk, this⟩
      refine ⟨fwd, ?_⟩
      intro k rv hin
      -- the code never looks at the keys of `r`: equal lengths and distinct keys force them into `l`
      have hk : k ∈ l.map Prod.fst :=
        subset_of_subset_of_length_eq hl (keys_subset fwd) (by simpa using hlen)
          (List.mem_map.2 ⟨(k, rv), hin, rfl⟩)
      obtain ⟨⟨k', lv⟩, hkin, rfl⟩ := List.mem_map.1 hk
      obtain ⟨rv', hr', he⟩ := fwd k' lv hkin
      cases keysNodup_unique hr hr' hin
      exact ⟨lv, hkin, he⟩
    · simp [hlen] at h
  · intro ⟨fwd, bwd⟩
    have h1 := hl.length_le_of_subset (keys_subset fwd)
    -- `bwd` is the same half of `MapRel` read from `r` to `l`, for the flipped element test
    have h2 := hr.length_le_of_subset (keys_subset (eq := fun a b => eq b a) bwd)
    simp only [List.length_map] at h1 h2
    have hlen : l.length = r.length := by omega
    simp only [hlen, bne_self_eq_false, Bool.false_eq_true, ↓reduceIte, List.all_eq_true]
    intro ⟨k, lv⟩ hin
    obtain ⟨rv, hr', he⟩ := fwd k lv hin
    simp [mapLookup_of_mem hr hr', he]

theorem genericPointer_some {α : Type} (eq : α → α → Bool) (a b : Ptr α) :
    genericPointer eq (some a) (some b) = true ↔ a.addr = b.addr ∨ eq a.val b.val = true := by
  show (if a.addr = b.addr then true else eq a.val b.val) = true ↔ _
  split
  · next h => exact ⟨fun _ => .inl h, fun _ => rfl⟩
  · next h => exact ⟨.inr, fun h' => h'.resolve_left h⟩

theorem genericPointer_eq_optEq {α : Type} (eq : α → α → Bool) (p q : Option (Ptr α))
    (hc : ∀ a ∈ p, ∀ b ∈ q, Ptr.Coherent a b) (hr : ∀ a ∈ p, eq a.val a.val = true) :
    genericPointer eq p q = optEq eq (p.map Ptr.val) (q.map Ptr.val) := by
  cases p with
  | none => cases q <;> rfl
  | some a =>
    cases q with
    | none => rfl
    | some b =>
      show (if a.addr = b.addr then true else eq a.val b.val) = eq a.val b.val
      split
      · next h => rw [← hc a rfl b rfl h, hr a rfl]
      · rfl

theorem optEq_iff {α : Type} (eq : α → α → Bool) (a b : Option α) :
    optEq eq a b = true ↔ OptRel eq a b := by
  cases a <;> cases b <;> simp [optEq, OptRel]

/-- `if p != nil { hasher(h, *p) }` — how generated code hashes an optional field -/
def addOpt {α : Type} (hasher : Hash → α → Hash) (h : Hash) : Option α → Hash
  | none => h
  | some a => hasher h a

theorem optEq_addOpt_eq {α : Type} (eq : α → α → Bool) (hasher : Hash → α → Hash) (a b : Option α)
    (hc : ∀ x ∈ a, ∀ y ∈ b, eq x y = true → ∀ h, hasher h x = hasher h y)
    (h : optEq eq a b = true) (h0 : Hash) : addOpt hasher h0 a = addOpt hasher h0 b := by
  cases a with
  | none =>
    cases b with
    | none => rfl
    | some _ => cases h
  | some x =>
    cases b with
    | none => cases h
    | some y => exact hc x rfl y rfl h h0

/-! `==` on floats is identity of the zero-normalised bit patterns of two non-NaNs — the very normal
form `AddFloat32/64` hash; symmetry, transitivity and hash congruence are read off it. -/

/-- "both zeros, or identical" is identity after every zero has been replaced by one of them -/
theorem zeroOrSame_iff {α : Type} [DecidableEq α] (z : α → Bool) (o : α) (ho : z o = true) (a b : α) :
    (if z a && z b then true else a == b) = true ↔ (if z a then o else a) = (if z b then o else b) := by
  have hne : ∀ x y, z x = false → z y = true → x ≠ y := fun x y hx hy e => by
    rw [e, hy] at hx; cases hx
  cases ha : z a <;> cases hb : z b <;>
    simp only [Bool.and_true, Bool.and_false, Bool.false_eq_true, ↓reduceIte, beq_iff_eq]
  · exact ⟨fun e => absurd e (hne a b ha hb), fun e => absurd e (hne a o ha ho)⟩
  · exact ⟨fun e => absurd e.symm (hne b a hb ha), fun e => absurd e.symm (hne b o hb ho)⟩

theorem floatEq32_iff (a b : UInt32) :
    floatEq32 a b = true ↔ isNaN32 a = false ∧ isNaN32 b = false ∧ normZero32 a = normZero32 b := by
  unfold floatEq32
  cases isNaN32 a <;> cases isNaN32 b <;>
    simp only [Bool.or_true, Bool.or_false, ↓reduceIte, Bool.false_eq_true, false_and, and_false, true_and, reduceCtorEq]
  exact zeroOrSame_iff _ 0 (by decide) a b
theorem floatEq64_iff (a b : UInt64) :
    floatEq64 a b = true ↔ isNaN64 a = false ∧ isNaN64 b = false ∧ normZero64 a = normZero64 b := by
  unfold floatEq64
  cases isNaN64 a <;> cases isNaN64 b <;>
    simp only [Bool.or_true, Bool.or_false, ↓reduceIte, Bool.false_eq_true, false_and, and_false, true_and, reduceCtorEq]
  exact zeroOrSame_iff _ 0 (by decide) a b

theorem floatEq32_symm {a b : UInt32} (h : floatEq32 a b = true) : floatEq32 b a = true :=
  have ⟨ha, hb, e⟩ := (floatEq32_iff a b).1 h
  (floatEq32_iff b a).2 ⟨hb, ha, e.symm⟩

theorem floatEq32_trans {a b c : UInt32} (h₁ : floatEq32 a b = true) (h₂ : floatEq32 b c = true) :
    floatEq32 a c = true :=
  have ⟨ha, _, e₁⟩ := (floatEq32_iff a b).1 h₁
  have ⟨_, hc, e₂⟩ := (floatEq32_iff b c).1 h₂
  (floatEq32_iff a c).2 ⟨ha, hc, e₁.trans e₂⟩

theorem floatEq64_symm {a b : UInt64} (h : floatEq64 a b = true) : floatEq64 b a = true :=
  have ⟨ha, hb, e⟩ := (floatEq64_iff a b).1 h
  (floatEq64_iff b a).2 ⟨hb, ha, e.symm⟩

theorem floatEq64_trans {a b c : UInt64} (h₁ : floatEq64 a b = true) (h₂ : floatEq64 b c = true) :
    floatEq64 a c = true :=
  have ⟨ha, _, e₁⟩ := (floatEq64_iff a b).1 h₁
  have ⟨_, hc, e₂⟩ := (floatEq64_iff b c).1 h₂
  (floatEq64_iff a c).2 ⟨ha, hc, e₁.trans e₂⟩

theorem Prim.eq_cases {a b : Prim} (h : Prim.eq a b = true) :
    a = b ∨ (∃ x y, a = .f32 x ∧ b = .f32 y ∧ floatEq32 x y = true) ∨
      (∃ x y, a = .f64 x ∧ b = .f64 y ∧ floatEq64 x y = true) := by
  unfold Prim.eq at h
  split at h
  · exact .inl (congrArg _ (eq_of_beq h))
  · exact .inl (congrArg _ (eq_of_beq h))
  · exact .inr (.inl ⟨_, _, rfl, rfl, h⟩)
  · exact .inr (.inr ⟨_, _, rfl, rfl, h⟩)
  · exact .inl (congrArg _ (eq_of_beq h))
  · exact .inl (congrArg _ (eq_of_beq h))
  · cases h

theorem Prim.eq_symm' {a b : Prim} (h : Prim.eq a b = true) : Prim.eq b a = true := by
  rcases Prim.eq_cases h with rfl | ⟨x, y, rfl, rfl, e⟩ | ⟨x, y, rfl, rfl, e⟩
  · exact h
  · exact floatEq32_symm e
  · exact floatEq64_symm e

theorem Prim.eq_symm (a b : Prim) : Prim.eq a b = Prim.eq b a :=
  Bool.eq_iff_iff.2 ⟨Prim.eq_symm', Prim.eq_symm'⟩

theorem Prim.eq_trans (a b c : Prim) (h₁ : Prim.eq a b = true) (h₂ : Prim.eq b c = true) :
    Prim.eq a c = true := by
  rcases Prim.eq_cases h₁ with rfl | ⟨x, y, rfl, rfl, e₁⟩ | ⟨x, y, rfl, rfl, e₁⟩
  · exact h₂
  · rcases Prim.eq_cases h₂ with rfl | ⟨_, z, hy, rfl, e₂⟩ | ⟨_, _, hy, _⟩
    · exact h₁
    · cases hy; exact floatEq32_trans e₁ e₂
    · cases hy
  · rcases Prim.eq_cases h₂ with rfl | ⟨_, _, hy, _⟩ | ⟨_, z, hy, rfl, e₂⟩
    · exact h₁
    · cases hy
    · cases hy; exact floatEq64_trans e₁ e₂

theorem Prim.eq_refl (a : Prim) (h : a.nanFree = true) : Prim.eq a a = true := by
  cases a with
  | i32 v => exact beq_self_eq_true v
  | i64 v => exact beq_self_eq_true v
  | f32 b =>
    have hb : isNaN32 b = false := (Bool.not_eq_true' _).mp h
    exact (floatEq32_iff b b).2 ⟨hb, hb, rfl⟩
  | f64 b =>
    have hb : isNaN64 b = false := (Bool.not_eq_true' _).mp h
    exact (floatEq64_iff b b).2 ⟨hb, hb, rfl⟩
  | bool v => exact beq_self_eq_true v
  | str v => exact beq_self_eq_true v

end Restli.Equals
