/-! Insertion sort by a Boolean order, structurally recursive (so closed terms evaluate under
`decide`), with the three facts the models need: the result is a permutation of the input, it is
sorted, and — for a total, transitive, antisymmetric order — it is a function of the multiset.
Stands for Go's `sort.Slice`/`sort.Strings` on element types where equivalent elements are
identical (`uint32`, `string`): there the sorted sequence is unique, so the algorithm and its
stability are irrelevant. Core Lean only. -/
namespace Restli

def insertSorted {α : Type} (le : α → α → Bool) (x : α) : List α → List α
  | [] => [x]
  | y :: ys => if le x y then x :: y :: ys else y :: insertSorted le x ys

def isort {α : Type} (le : α → α → Bool) (l : List α) : List α := l.foldr (insertSorted le) []

theorem insertSorted_perm {α : Type} (le : α → α → Bool) (x : α) (l : List α) :
    (insertSorted le x l).Perm (x :: l) := by
  induction l with
  | nil => exact List.Perm.refl _
  | cons y ys ih =>
    simp only [insertSorted]
    split
    · exact List.Perm.refl _
    · exact (List.Perm.cons y ih).trans (List.Perm.swap x y ys)

theorem isort_perm {α : Type} (le : α → α → Bool) (l : List α) : (isort le l).Perm l := by
  induction l with
  | nil => exact List.Perm.refl _
  | cons x xs ih =>
    simp only [isort, List.foldr_cons] at ih ⊢
    exact (insertSorted_perm le x _).trans (List.Perm.cons x ih)

theorem insertSorted_pairwise {α : Type} (le : α → α → Bool)
    (htrans : ∀ a b c, le a b = true → le b c = true → le a c = true) (x : α) (l : List α)
    (hx : ∀ y ∈ l, le x y = false → le y x = true)
    (h : l.Pairwise (fun a b => le a b = true)) :
    (insertSorted le x l).Pairwise (fun a b => le a b = true) := by
  induction l with
  | nil => simp [insertSorted]
  | cons y ys ih =>
    simp only [insertSorted]
    have hy := List.pairwise_cons.1 h
    split
    · next hxy =>
      refine List.pairwise_cons.2 ⟨?_, h⟩
      intro z hz
      rcases List.mem_cons.1 hz with rfl | hz
      · exact hxy
      · exact htrans _ _ _ hxy (hy.1 z hz)
    · next hxy =>
      refine List.pairwise_cons.2 ⟨?_, ih (fun z hz => hx z (List.mem_cons_of_mem _ hz)) hy.2⟩
      intro z hz
      rcases List.mem_cons.1 ((insertSorted_perm le x ys).mem_iff.1 hz) with rfl | hz'
      · exact hx y (List.mem_cons_self ..) (Bool.eq_false_iff.2 hxy)
      · exact hy.1 z hz'

theorem isort_pairwise {α : Type} (le : α → α → Bool)
    (htrans : ∀ a b c, le a b = true → le b c = true → le a c = true)
    (htotal : ∀ a b, (le a b || le b a) = true) (l : List α) :
    (isort le l).Pairwise (fun a b => le a b = true) := by
  induction l with
  | nil => simp [isort]
  | cons x xs ih =>
    simp only [isort, List.foldr_cons] at ih ⊢
    refine insertSorted_pairwise le htrans x _ (fun y _ hxy => ?_) ih
    have := htotal x y
    rwa [hxy, Bool.false_or] at this

/-- the sorted sequence is a function of the multiset -/
theorem isort_eq_of_perm {α : Type} (le : α → α → Bool)
    (htrans : ∀ a b c, le a b = true → le b c = true → le a c = true)
    (htotal : ∀ a b, (le a b || le b a) = true)
    (hanti : ∀ a b, le a b = true → le b a = true → a = b)
    {l l' : List α} (h : l.Perm l') : isort le l = isort le l' := by
  apply List.Perm.eq_of_pairwise (le := fun a b => le a b = true)
  · intro a b _ _ hab hba
    exact hanti a b hab hba
  · exact isort_pairwise le htrans htotal l
  · exact isort_pairwise le htrans htotal l'
  · exact (isort_perm le l).trans (h.trans (isort_perm le l').symm)

end Restli
